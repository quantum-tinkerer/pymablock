/-
Every module of the library, each once: the model, the proofs, the property files (`Props/Registry.lean`
imports this file and checks the names).  DESIGN.md says what each module is for.
-/
import PymaVerif.Model.Scalar
import PymaVerif.Model.Mat
import PymaVerif.Model.Dsl
import PymaVerif.Model.Generated.Algorithms
import PymaVerif.Model.BlockDiag
import PymaVerif.Model.CBody
import PymaVerif.Model.Generated.Compiled
import PymaVerif.Model.Machine
import PymaVerif.Model.Cauchy
import PymaVerif.Model.Projector
import PymaVerif.Model.Nof
import PymaVerif.Model.NofExpr
import PymaVerif.Model.NofSpec
import PymaVerif.Model.Index
import PymaVerif.Model.Closure
import PymaVerif.Model.Validate
import PymaVerif.Model.Formats
import PymaVerif.Model.Kpm
import PymaVerif.Model.Taylor

import PymaVerif.Proofs.Filtered
import PymaVerif.Proofs.CoreH
import PymaVerif.Proofs.CoreH2
import PymaVerif.Proofs.CoreU
import PymaVerif.Proofs.CoreN
import PymaVerif.Proofs.SeriesInst
import PymaVerif.Proofs.SeriesMask
import PymaVerif.Proofs.HalfSum
import PymaVerif.Proofs.LexGt

import PymaVerif.Proofs.DslDen
import PymaVerif.Proofs.DslSound
import PymaVerif.Proofs.DslDet
import PymaVerif.Proofs.MatBridge
import PymaVerif.Proofs.Sem
import PymaVerif.Proofs.StepSem
import PymaVerif.Proofs.Splits
import PymaVerif.Proofs.Global
import PymaVerif.Proofs.Total
import PymaVerif.Proofs.Causal
import PymaVerif.Proofs.Natural
import PymaVerif.Proofs.CompileSound
import PymaVerif.Proofs.CompileEval
import PymaVerif.Proofs.CompiledOk

import PymaVerif.Proofs.BlockDiagSem
import PymaVerif.Proofs.EntrySem
import PymaVerif.Proofs.MainKinds
import PymaVerif.Proofs.ProblemSeries
import PymaVerif.Proofs.MainSeries
import PymaVerif.Proofs.MainH
import PymaVerif.Proofs.MainOpt
import PymaVerif.Proofs.MainTotal
import PymaVerif.Proofs.Accepted
import PymaVerif.Proofs.MainUnique
import PymaVerif.Proofs.NhSeries
import PymaVerif.Proofs.NhAccepted
import PymaVerif.Proofs.DriverThm
import PymaVerif.Proofs.Trace
import PymaVerif.Proofs.LevelsThm
import PymaVerif.Proofs.SharedError

import PymaVerif.Proofs.WitnessProblems
import PymaVerif.Proofs.Witness
import PymaVerif.Proofs.NhWitness
import PymaVerif.Proofs.D5Witness
import PymaVerif.Proofs.GRatField
import PymaVerif.Proofs.CompiledRun

import PymaVerif.Proofs.OrderMaps
import PymaVerif.Proofs.Covariance
import PymaVerif.Proofs.SemNatural
import PymaVerif.Proofs.ProblemSupp
import PymaVerif.Proofs.Conjugation
import PymaVerif.Proofs.Rotation
import PymaVerif.Proofs.Isometry
import PymaVerif.Proofs.Implicit

import PymaVerif.Proofs.NofBoson
import PymaVerif.Proofs.NofSpin
import PymaVerif.Proofs.NofFermion
import PymaVerif.Proofs.NofSylvester
import PymaVerif.Proofs.NofAdjoint
import PymaVerif.Proofs.NofAssoc
import PymaVerif.Proofs.NofRoundTrip
import PymaVerif.Proofs.NofSpecEq

import PymaVerif.Proofs.MachineThm
import PymaVerif.Proofs.MachineOnce
import PymaVerif.Proofs.MachineMany
import PymaVerif.Proofs.InsertNew
import PymaVerif.Proofs.CauchyThm
import PymaVerif.Proofs.ProjectorThm
import PymaVerif.Proofs.GreensThm
import PymaVerif.Proofs.KpmThm
import PymaVerif.Proofs.TaylorThm
import PymaVerif.Proofs.FormatsThm
import PymaVerif.Proofs.ClosureThm
import PymaVerif.Proofs.ValidateThm
import PymaVerif.Proofs.ValidateBridge
import PymaVerif.Proofs.IndexThm
import PymaVerif.Proofs.IndexBounds
import PymaVerif.Proofs.IndexView

import PymaVerif.Props.C01
import PymaVerif.Props.C02
import PymaVerif.Props.C03
import PymaVerif.Props.C04
import PymaVerif.Props.C05
import PymaVerif.Props.C06
import PymaVerif.Props.C07
import PymaVerif.Props.C08
import PymaVerif.Props.C09
import PymaVerif.Props.C10
import PymaVerif.Props.C11
import PymaVerif.Props.C12
import PymaVerif.Props.C13
import PymaVerif.Props.C14
import PymaVerif.Props.C15
import PymaVerif.Props.C16
import PymaVerif.Props.C17
import PymaVerif.Props.C18
import PymaVerif.Props.C19
import PymaVerif.Props.C20
