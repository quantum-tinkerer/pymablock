/-
Property C03 — the result is the unique least-action (Schrieffer–Wolff) transformation.
Same subject and quantification as C01.  The gauge: the anti-Hermitian part of `U − 1` has no kept entry.
Uniqueness: *any* series `U₂` starting with the identity that is unitary, satisfies the gauge and eliminates the
non-kept entries of `U₂† H U₂` is the computed `U` — hence any independent order-by-order solver of the defining
equations returns the same `U`, `U†` and `H̃`.
-/
import PymaVerif.Proofs.MainUnique
import PymaVerif.Proofs.Witness
import PymaVerif.Proofs.LevelsThm

namespace Pyma
namespace Props
open MvPowerSeries BlockDiag BlockDiag.Problem

variable {K : Type} [Field K] [StarRing K] [DecidableEq K] [Thresholds K] [LawfulThresholds K]
variable {p : Problem K}

/-- **C03** gauge: `U − U†` (twice the anti-Hermitian part of `U − 1`) has no kept entry, at any order -/
theorem C03_gauge (h : p.Accepted) (h2 : (2 : K) ≠ 0) (m : Fin p.nparams →₀ ℕ) (a b : Fin p.d)
    (hk : p.keptE a.val b.val = true) : coeff m (p.sr "U" - p.sr "U†") a b = 0 := by
  rw [← (Problem.C02 h h2).2.2, p.sr_U h.ready, star_add, star_one, add_sub_add_left_eq_sub]
  exact p.C03_gauge h.ready h.sym h.acc h2 m a b hk

/-- **C03** the computed `U' = U − 1` solves the defining equations and is the only solution -/
theorem C03_defining_equations (h : p.Accepted) (h2 : (2 : K) ≠ 0) :
    TheoremU.Sol (p.ctx h.ready h.acc h2) (p.sr "U'") ∧
    ∀ P₂, TheoremU.Sol (p.ctx h.ready h.acc h2) P₂ → P₂ = p.sr "U'" :=
  p.C03 h h2

/-- **C03** uniqueness in self-contained form -/
theorem C03_unique (h : p.Accepted) (h2 : (2 : K) ≠ 0) (U₂ : Sr (Fin p.nparams) K p.d)
    (h0 : coeff 0 U₂ = 1)
    (hunit : star U₂ * U₂ = 1)
    (hgauge : ∀ m (a b : Fin p.d), p.keptE a.val b.val = true → coeff m (U₂ - star U₂) a b = 0)
    (helim : ∀ m (a b : Fin p.d), p.keptE a.val b.val = false → coeff m (star U₂ * p.sr "H" * U₂) a b = 0) :
    U₂ = p.sr "U" := by
  have e1 : (1 : Sr (Fin p.nparams) K p.d) + (U₂ - 1) = U₂ := add_sub_cancel 1 U₂
  have es : (1 : Sr (Fin p.nparams) K p.d) + star (U₂ - 1) = star U₂ := by rw [star_sub, star_one, add_sub_cancel]
  have eg : U₂ - 1 - star (U₂ - 1) = U₂ - star U₂ := by rw [star_sub, star_one, sub_sub_sub_cancel_right]
  have hsol : TheoremU.Sol (p.ctx h.ready h.acc h2) (U₂ - 1) := by
    rw [p.sol_iff h.ready h.acc h2, es, e1, eg, map_sub, h0, coeff_zero_one, sub_self]
    exact ⟨rfl, hunit, hgauge, helim⟩
  rw [p.sr_U h.ready, ← (C03_defining_equations h h2).2 _ hsol, e1]

/-- the computed `U` itself meets the four conditions of `C03_unique` (so the theorem is not vacuous) -/
theorem C03_computed_meets_conditions (h : p.Accepted) (h2 : (2 : K) ≠ 0) :
    coeff 0 (p.sr "U") = 1 ∧ star (p.sr "U") * p.sr "U" = 1 ∧
    (∀ m (a b : Fin p.d), p.keptE a.val b.val = true → coeff m (p.sr "U" - star (p.sr "U")) a b = 0) ∧
    (∀ m (a b : Fin p.d), p.keptE a.val b.val = false →
      coeff m (star (p.sr "U") * p.sr "H" * p.sr "U") a b = 0) := by
  obtain ⟨u1, _, hadj⟩ := Problem.C02 h h2
  rw [hadj]
  refine ⟨?_, u1, C03_gauge h h2, Problem.C01_elim h h2⟩
  rw [p.sr_U h.ready, map_add, mem_F1_iff.mp (p.F1_P h.ready), add_zero, coeff_zero_one]

example : ∀ m (a b : Fin wd.d), wd.keptE a.val b.val = true → coeff m (wd.sr "U" - wd.sr "U†") a b = 0 :=
  fun m a b hk => C03_gauge wd_accepted (by norm_num) m a b hk

/-- **C03** uniqueness for every well-formed input with the list form (or the absence) of `fully_diagonalize` — no condition on the masks, which the model of
the code constructs — and for masks of the caller that pass the two checks of `block_diagonalize` -/
theorem C03_unique_every_list_form_problem (h : p.InputOK) (h2 : (2 : K) ≠ 0) (U₂ : Sr (Fin p.nparams) K p.d) (h0 : coeff 0 U₂ = 1)
    (hunit : star U₂ * U₂ = 1)
    (hgauge : ∀ m (a b : Fin p.d), p.keptE a.val b.val = true → coeff m (U₂ - star U₂) a b = 0)
    (helim : ∀ m (a b : Fin p.d), p.keptE a.val b.val = false → coeff m (star U₂ * p.sr "H" * U₂) a b = 0) : U₂ = p.sr "U" :=
  C03_unique h.accepted h2 U₂ h0 hunit hgauge helim

theorem C03_unique_every_masked_problem (h : p.MasksOK) (h2 : (2 : K) ≠ 0) (U₂ : Sr (Fin p.nparams) K p.d) (h0 : coeff 0 U₂ = 1)
    (hunit : star U₂ * U₂ = 1)
    (hgauge : ∀ m (a b : Fin p.d), p.keptE a.val b.val = true → coeff m (U₂ - star U₂) a b = 0)
    (helim : ∀ m (a b : Fin p.d), p.keptE a.val b.val = false → coeff m (star U₂ * p.sr "H" * U₂) a b = 0) : U₂ = p.sr "U" :=
  C03_unique h.accepted h2 U₂ h0 hunit hgauge helim

end Props
end Pyma
