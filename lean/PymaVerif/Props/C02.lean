/-
Property C02 — Hermitian mode: `U` is unitary at every order, the third returned series is its adjoint, `H̃` is Hermitian.
Same subject and quantification as C01 (`Props/C01.lean`).
-/
import PymaVerif.Proofs.Accepted
import PymaVerif.Proofs.Witness
import PymaVerif.Proofs.LevelsThm

namespace Pyma
namespace Props
open MvPowerSeries BlockDiag BlockDiag.Problem

variable {K : Type} [Field K] [StarRing K] [DecidableEq K] [Thresholds K] [LawfulThresholds K]
variable {p : Problem K}

/-- **C02** `U†·U = 1` and `U·U† = 1` as Cauchy products (the identity at order zero, zero at every other order) -/
theorem C02_unitary (h : p.Accepted) (h2 : (2 : K) ≠ 0) :
    p.sr "U†" * p.sr "U" = 1 ∧ p.sr "U" * p.sr "U†" = 1 :=
  ⟨(Problem.C02 h h2).1, (Problem.C02 h h2).2.1⟩

/-- **C02** the third returned series is the adjoint of `U`: coefficientwise conjugate transpose, i.e. element
`(i,j,n)` of `U†` is the conjugate transpose of element `(j,i,n)` of `U` -/
theorem C02_adjoint (h : p.Accepted) (h2 : (2 : K) ≠ 0) : star (p.sr "U") = p.sr "U†" :=
  (Problem.C02 h h2).2.2

theorem C02_adjoint_entry (h : p.Accepted) (h2 : (2 : K) ≠ 0) (m : Fin p.nparams →₀ ℕ) (a b : Fin p.d) :
    coeff m (p.sr "U†") a b = star (coeff m (p.sr "U") b a) := by
  rw [← C02_adjoint h h2, coeff_star_apply]

/-- **C02** `H̃` is Hermitian at every order -/
theorem C02_Htilde_hermitian (h : p.Accepted) (h2 : (2 : K) ≠ 0) : star (p.sr "H_tilde") = p.sr "H_tilde" :=
  Problem.C02_Ht_herm h h2

/-- **C02** without the transitivity clause of `Accepted` (it is a theorem of the model of the repaired code, see `C01_kept_pattern_transitive`): unitarity, the
adjoint and the Hermiticity of `H̃` also when levels are equal within `atol` only through a chain of neighbours -/
theorem C02_chains_of_close_levels (h : p.AcceptedCore) (h2 : (2 : K) ≠ 0) :
    p.sr "U†" * p.sr "U" = 1 ∧ p.sr "U" * p.sr "U†" = 1 ∧ star (p.sr "U") = p.sr "U†" ∧ star (p.sr "H_tilde") = p.sr "H_tilde" :=
  ⟨(C02_unitary h.accepted h2).1, (C02_unitary h.accepted h2).2, C02_adjoint h.accepted h2, C02_Htilde_hermitian h.accepted h2⟩

/-- **C02** for every well-formed input with the list form (or the absence) of `fully_diagonalize`, and for masks of the caller that pass the two checks -/
theorem C02_every_list_form_problem (h : p.InputOK) (h2 : (2 : K) ≠ 0) :
    p.sr "U†" * p.sr "U" = 1 ∧ p.sr "U" * p.sr "U†" = 1 ∧ star (p.sr "U") = p.sr "U†" ∧ star (p.sr "H_tilde") = p.sr "H_tilde" :=
  ⟨(C02_unitary h.accepted h2).1, (C02_unitary h.accepted h2).2, C02_adjoint h.accepted h2, C02_Htilde_hermitian h.accepted h2⟩
theorem C02_every_masked_problem (h : p.MasksOK) (h2 : (2 : K) ≠ 0) :
    p.sr "U†" * p.sr "U" = 1 ∧ p.sr "U" * p.sr "U†" = 1 ∧ star (p.sr "U") = p.sr "U†" ∧ star (p.sr "H_tilde") = p.sr "H_tilde" :=
  ⟨(C02_unitary h.accepted h2).1, (C02_unitary h.accepted h2).2, C02_adjoint h.accepted h2, C02_Htilde_hermitian h.accepted h2⟩

example : wlist.sr "U†" * wlist.sr "U" = 1 := (C02_every_list_form_problem wlist_input (by norm_num)).1
example : wchain.sr "U†" * wchain.sr "U" = 1 := (C02_chains_of_close_levels wchain_core (by norm_num)).1
example : w2.sr "U†" * w2.sr "U" = 1 ∧ w2.sr "U" * w2.sr "U†" = 1 := C02_unitary w2_accepted (by norm_num)
example : star (wd.sr "H_tilde") = wd.sr "H_tilde" := C02_Htilde_hermitian wd_accepted (by norm_num)

end Props
end Pyma
