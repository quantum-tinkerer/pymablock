/-
Registry of the theorems in `Proofs/` that the property theorems of `Props/` rest on, by property.
`#check` fails if a name disappears.
-/
import PymaVerif

open Pyma

-- C01  U†HU = H̃ on kept, 0 on eliminated
#check @BlockDiag.Problem.C01
#check @BlockDiag.Problem.C01_elim
#check @BlockDiag.Problem.driver_sound
#check @GRat.scalar_eq
#check @BlockDiag.Problem.w3_accepted
#check @BlockDiag.Problem.w2_accepted
-- C02  unitarity, adjoint pairing, H̃ Hermitian
#check @BlockDiag.Problem.C02
#check @BlockDiag.Problem.C02_Ht_herm
-- C03  least-action gauge and uniqueness
#check @BlockDiag.Problem.C03
#check @BlockDiag.Problem.C03_gauge
#check @TheoremU.unique
-- C04  spectrum
#check @BlockDiag.Problem.C04_traces
#check @BlockDiag.Problem.C04_truncated
#check @BlockDiag.Problem.C04_rayleigh_schrodinger
-- C05  non-Hermitian mode (partial) and the counterexample to the full statement
#check @BlockDiag.Problem.C05_partial
#check @BlockDiag.Problem.C05_hermitian_limit
#check @BlockDiag.Problem.D5_witness
#check @TheoremUN.unique
#check @BlockDiag.Problem.n2_accepted
-- C06 C07 C14  naturality
#check @Dsl.Den.map
#check @Dsl.sem_natural
-- C08  NumberOrderedForm
#check @Nof.rep_mul3
#check @Nof.specX_eq
#check @Nof.rep_add
#check @Nof.rep_adjoint
#check @Nof.adjoint_mul
#check @Nof.kernel_comp
#check @Nof.rep_mul_assoc
#check @Nof.rep_mul_add
#check @Nof.rep_add_mul
#check @Nof.rep_mul_one
#check @Nof.rep_one_mul
#check @Nof.rep_npow_succ
#check @Nof.wf2_mul
#check @Nof.wf2_adjoint
#check @Nof.roundtrip
#check @Nof.ampF'_gen
#check @Nof.rep_neg
#check @Nof.fermion_parity
-- C09  compilation
#check @Dsl.compiled_main_ok
#check @Dsl.compiled_nonhermitian_ok
#check @Dsl.compile_sound
#check @Dsl.getElem_sound
#check @Dsl.getElem_complete
#check @Dsl.Holds.det
#check @Dsl.total
#check @BlockDiag.Problem.total_main
#check @BlockDiag.Problem.total_nh
-- C10 C11 C19  the BlockSeries machine
#check @Machine.sound
#check @Machine.no_leftover
#check @Machine.log_nodup
-- C12  causality
#check @Dsl.Den.causal
-- C13 C15  transport
#check @TheoremU.transport
#check @BlockDiag.Problem.C15_shift
#check @BlockDiag.Problem.C13_scale
#check @BlockDiag.Problem.C13_permute
#check @degree_domCongr
#check @BlockDiag.Problem.C15_conjugation
#check @BlockDiag.Problem.C14_rotation
-- C06 implicit mode
#check @BlockDiag.Problem.C06_implicit
#check @BlockDiag.Problem.implicit_offdiag_solver
#check @Dsl.sylvester_embedded_unique
#check @Dsl.isoM_mul
#check @Dsl.sem_natural
-- C16  solvers
#check @Greens.direct_solve
#check @BlockDiag.Problem.solveSem_sylvester
#check @Nof.solveScalar_spec
-- C17  projector
#check @Projector.apply_eq
#check @Projector.applyLeft_eq
#check @Projector.dense_adjoint
#check @Projector.dense_conjugate
#check @Projector.dense_transpose
#check @Projector.dense_idempotent
-- C18  Cauchy products
#check @Cauchy.prodLoop_ok
#check @half_sum_eq_full
#check @Dsl.Ser_product

-- C20  accepted problems are answered (model level)
#check @BlockDiag.Problem.driver_total
#check @BlockDiag.Problem.driver_total_nh
-- C20 shared eigenvalue ⇒ no value / error
#check @BlockDiag.Problem.C20_shared
#check @BlockDiag.Problem.C20_shared_run
#check @BlockDiag.Problem.C20_shared_nh
