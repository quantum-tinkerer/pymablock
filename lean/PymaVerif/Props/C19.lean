/-
Property C19 — BlockSeries indexing follows numpy semantics with exactly-once evaluation.

Proved on the machine model (`Model/Machine.lean`): while an element is cached it is not evaluated again (`C19_evaluated_at_most_once`:
the log of evaluations started in any successful pop-free execution from empty caches has no duplicate), a self-referential definition
ends in the recursion error instead of looping (`C19_self_reference_raises`, for every fuel ≥ 3, i.e. whatever recursion depth is allowed), values
returned are the denotation (`C19_value`).
Selection semantics is modelled as well (`Model/Index.lean`): NumPy's rule for items of integers, lists and forward slices (`select`:
negative finite indices, clipping of slices, basic indexing, broadcast lists, placement of the advanced dimension) and the real code's
resolution through a trial array (`getitem`: `_check_finite`, the count of indices, the trial shape, the evaluated positions).  Proved:
`C19_numpy_semantics` — for every accepted item the answer is NumPy's selection on the dense array of *any* sufficiently large truncation
of the series (the trial array suffices); `C19_evaluated_exactly_selected_once` — the evaluated positions are the selected elements, each
once, in lexicographic order; `C19_in_bounds` — only in-range elements are ever addressed; `C19_negative_or_infinite_rejected` and
`C19_wrong_number_rejected` — the IndexError clauses; `C19_request_values`, `C19_item_request_at_most_once` — the two models composed: a request for several
elements returns the element values position by position and evaluates each selected element at most once, also when the elements depend on each other;
`C19_view` — an item on the finite dimensions only gives a view with NumPy's shape whose entry at the orders `o` is the parent element `src ++ o` for the
source `src` NumPy selects, the orders being handed to the parent as slices of length one (`C19_view_rejected`: it raises exactly when NumPy rejects the item;
`C19_shape_consistent`: a selection has as many entries as its shape says, so the `reshape` of the view cannot fail).  The model's `select` is itself compared with NumPy on dense arrays, and `getitem` with
`BlockSeries[item]` (result shape, the source of every entry, the evaluated set, error class, views) by `harness/index_corr.py`;
`harness/machine_corr.py` adds multi-element requests whose elements depend on each other (`box` requests) against the machine model.
Trusted: NumPy's own indexing as the reference the model's `select` is tested (not proved) against; masking of `zero` entries is compared
by the harness only.
-/
import PymaVerif.Proofs.MachineMany
import PymaVerif.Proofs.IndexView

namespace Pyma
namespace Props
open Machine

variable {V : Type}

/-- **C19** each element is evaluated at most once while cached -/
theorem C19_evaluated_at_most_once (S : Sys V) (hdefs : ∀ s i, NoPop (S.defs s i)) (f : Nat) (sc : Script V) (hsc : NoPop sc)
    (v : V) (h : (run S f sc ⟨[], 0, []⟩).1 = .ok v) : (run S f sc ⟨[], 0, []⟩).2.log.Nodup :=
  log_nodup S hdefs f sc hsc v h

/-- **C19** what an index returns is the value of the element -/
theorem C19_value (S : Sys V) (den : SId → Idx → V) (hc : Consistent S den) (f : Nat) (s : SId) (i : Idx) (w : World V)
    (hw : Inv den w) (v : V) (h : (getItem S f s i w).1 = .ok v) : v = den s i :=
  (getItem_sound hc f s i hw).2 v h

/-- **C19** a self-referential definition raises the recursion error (wrapped on its way out) instead of recursing forever -/
theorem C19_self_reference_raises (S : Sys V) (s : SId) (i : Idx) (k : V → Script V) (hdef : S.defs s i = .get s i k)
    (f : Nat) (w : World V) (hw : w.get s i = none) :
    (getItem S (f + 3) s i w).1 = .error .wrapped := by
  have hpend : (w.enter s i).get s i = some .pending := (World.get_set w s i (some .pending) s i).trans (if_pos rfl)
  simp only [getItem, hw, hdef, run, hpend, rewrap]

/-- **C19** indexing follows NumPy: for an item whose entries on the infinite dimensions are bounded and non-negative, the series answers
with NumPy's selection on the dense array of every truncation at least as large as the trial array — the result shape and, entry by entry,
the element it shows -/
theorem C19_numpy_semantics (shape : List Nat) (fin inf : List Index.Ax) (big : List Nat) (hlen : shape.length = fin.length)
    (hok : ∀ a ∈ inf, Index.AxOk a) (hbig : List.Forall₂ (fun a n => Index.trialLen a ≤ n) inf big) :
    (Index.getitem shape inf.length (fin ++ inf)).map (fun a => (a.shape, a.sources))
      = (Index.select (shape ++ big) (fin ++ inf)).map (fun r => (r.shape, r.sources)) := by
  have hdrop : (fin ++ inf).drop shape.length = inf := by rw [hlen]; simp
  rw [Index.getitem_eq, hdrop, if_pos ⟨(Index.checkFinite_iff inf).2 hok, by rw [List.length_append, hlen]⟩,
    Index.select_trunc hlen hok hbig]
  cases Index.select (Index.trialDims shape inf) (fin ++ inf) <;> rfl

/-- **C19** exactly the selected elements are evaluated, each once (in lexicographic order) -/
theorem C19_evaluated_exactly_selected_once (shape : List Nat) (ninf : Nat) (item : List Index.Ax) (a : Index.Answer)
    (h : Index.getitem shape ninf item = .ok a) :
    a.evaluated.Nodup ∧ a.evaluated.Pairwise (· < ·) ∧ ∀ t, t ∈ a.evaluated ↔ t ∈ a.sources := by
  obtain ⟨r, _, rfl⟩ := Index.getitem_ok h
  exact ⟨Index.positions_nodup _, Index.positions_sorted _, Index.mem_positions _⟩

/-- **C19** only elements inside the trial array — in-range finite indices, orders below the trial length — are ever addressed -/
theorem C19_in_bounds (shape : List Nat) (ninf : Nat) (item : List Index.Ax) (a : Index.Answer)
    (h : Index.getitem shape ninf item = .ok a) :
    ∀ s ∈ a.sources, List.Forall₂ (· < ·) s (Index.trialDims shape (item.drop shape.length)) := by
  obtain ⟨r, hr, rfl⟩ := Index.getitem_ok h
  exact Index.select_in_bounds hr

/-- **C19** a negative order, a negative slice bound or a missing stop on an infinite dimension raises `IndexError` -/
theorem C19_negative_or_infinite_rejected (shape : List Nat) (ninf : Nat) (item : List Index.Ax) (a : Index.Ax)
    (ha : a ∈ item.drop shape.length) (hbad : ¬ Index.AxOk a) : Index.getitem shape ninf item = .error .index :=
  Index.getitem_rejects ninf ha hbad

/-- **C19** the wrong number of indices raises `IndexError` -/
theorem C19_wrong_number_rejected (shape : List Nat) (ninf : Nat) (item : List Index.Ax) (h : item.length ≠ shape.length + ninf) :
    Index.getitem shape ninf item = .error .index := by
  rw [Index.getitem_eq, if_neg fun h' => h h'.2]

/-- **C19** a request for several elements returns, position by position, the values of the elements (and leaves a consistent cache) -/
theorem C19_request_values (S : Sys V) (den : SId → Idx → V) (hc : Consistent S den) (f : Nat) (s : SId) (idxs : List Idx) (w : World V)
    (hw : Inv den w) (vs : List V) (h : (getMany S f s idxs w).1 = .ok vs) : vs = idxs.map (den s) ∧ Inv den (getMany S f s idxs w).2 :=
  ⟨(getMany_sound hc f s idxs w hw).2 vs h, (getMany_sound hc f s idxs w hw).1⟩

/-- **C19** `series[item]`: the elements the item selects (the evaluated positions of the resolution model) are each evaluated at most once — also when the
elements of the request depend on each other, so that some are evaluated re-entrantly before their turn — and they are looked up without repetition -/
theorem C19_item_request_at_most_once (S : Sys V) (hdefs : ∀ s i, NoPop (S.defs s i)) (f : Nat) (s : SId) (shape : List Nat) (ninf : Nat)
    (item : List Index.Ax) (a : Index.Answer) (ha : Index.getitem shape ninf item = .ok a) (v0 v : V)
    (h : (run S f (manyScript s a.evaluated v0) ⟨[], 0, []⟩).1 = .ok v) :
    (run S f (manyScript s a.evaluated v0) ⟨[], 0, []⟩).2.log.Nodup ∧ a.evaluated.Nodup :=
  ⟨request_log_nodup hdefs h, (C19_evaluated_exactly_selected_once shape ninf item a ha).1⟩

/-- **C19** a selection has as many entries as its shape says -/
theorem C19_shape_consistent (dims : List Nat) (item : List Index.Ax) (r : Index.Result) (h : Index.select dims item = .ok r) :
    r.sources.length = Index.prodL r.shape :=
  Index.select_length h

/-- **C19** views: an item on the finite dimensions only gives the series of NumPy's shape for the item whose entry at the orders `o` is the
parent element at `src ++ o`, `src` being what NumPy selects; the parent evaluates exactly those elements, each once -/
theorem C19_view (shape : List Nat) (item : List Index.Ax) (o : List Nat) (hlen : item.length = shape.length) (v : Index.Result)
    (hv : Index.select shape item = .ok v) :
    Index.view shape item o = .ok ⟨v.shape, v.sources.map (· ++ o), Index.positions (v.sources.map (· ++ o))⟩ :=
  Index.view_spec o hlen hv

/-- **C19** a view of an item NumPy rejects raises the same error -/
theorem C19_view_rejected (shape : List Nat) (item : List Index.Ax) (o : List Nat) (e : Index.Err) (hv : Index.select shape item = .error e) :
    Index.view shape item o = .error e :=
  Index.view_rejects o hv

-- non-vacuity: `series[-1, :3:2]`, `series[[0, 1], :, [1, 2]]` (advanced indices apart: their dimension comes first), `series[0, :-1]`
example : Index.getitem [2] 1 [.int (-1), .slice none (some 3) 2] = .ok ⟨[2], [[1, 0], [1, 2]], [[1, 0], [1, 2]]⟩ := by decide +kernel
example : (Index.getitem [2, 3] 1 [.list [0, 1], .slice none none 1, .list [1, 2]]).map (·.shape) = .ok [2, 3] := by decide +kernel
example : Index.getitem [2] 1 [.int 0, .slice (some 0) (some (-1)) 1] = .error .index := by decide +kernel
example : Index.getitem [2] 1 [.list [1, 1], .int 2] = .ok ⟨[2], [[1, 2], [1, 2]], [[1, 2]]⟩ := by decide +kernel
-- a view with lists apart on the finite dimensions, `series[[0, 1], :, [1, 2]]` at order 4 (the advanced dimension comes first)
example : Index.view [2, 3, 3] [.list [0, 1], .slice none (some 2) 1, .list [1, 2]] [4] =
    .ok ⟨[2, 2], [[0, 0, 1, 4], [0, 1, 1, 4], [1, 0, 2, 4], [1, 1, 2, 4]], [[0, 0, 1, 4], [0, 1, 1, 4], [1, 0, 2, 4], [1, 1, 2, 4]]⟩ := by decide +kernel

end Props
end Pyma
