/-
Property C11 — an exception during evaluation leaves the computation consistent and reusable.

Same model as C10 (`Model/Machine.lean`).  A *fault plan* `S.fault : Nat → Option Err` says which callback invocation (counted over
the whole history) raises which exception (`runtime` = RuntimeError family, re-raised wrapped; `user` = anything else including
BaseException-like ones).  The theorems hold for EVERY fault plan, every system of scripts, every crash point:
  * `C11_no_marker_left_behind`: no in-flight marker that was not there before a request survives it, whether it succeeds or fails;
  * `C11_fault_containment`: after any history of requests, failed ones included, every later successful read returns the value of the
    undisturbed computation (`den`) — no partially computed or stale value is ever returned;
  * `C11_reusable`: a request made again after the faults are over (any plan that does not fire any more) on the state left behind by
    any history behaves as on a cache whose cells are all correct.
Tied to the code by `harness/machine_corr.py` (random networks of series, fault plans with Exception / RuntimeError / BaseException at the
k-th callback, the whole observable history compared, leftover PENDING cells counted) and by the operator-fault phase of
`harness/cauchy_corr.py` (the multiplication callback raises; exception must propagate, the repeated request must give the clean value).
-/
import PymaVerif.Props.C10

namespace Pyma
namespace Props
open Machine

variable {V : Type}

/-- **C11** a request — successful or failed at any point — leaves no new in-flight marker behind -/
theorem C11_no_marker_left_behind (S : Sys V) (fuel : Nat) (s : SId) (i : Idx) (w : World V) :
    PendSub (getItem S fuel s i w).2 w :=
  (no_leftover S fuel).2 s i w

/-- … and so does any history of requests started from clean caches: no cell is ever left pending -/
theorem C11_history_leaves_no_marker (S : Sys V) (fuel : Nat) (reqs : List Req) (w : World V)
    (hw : ∀ s i, w.get s i ≠ some .pending) : ∀ s i, (replay S fuel reqs w).2.get s i ≠ some .pending := by
  induction reqs generalizing w with
  | nil => exact hw
  | cons r rest ih =>
    cases r with
    | get s i => exact ih _ fun s' i' h => hw s' i' (C11_no_marker_left_behind S fuel s i w s' i' h)
    | pop s i => exact ih _ fun s' i' h => hw s' i' (pendSub_set none nofun s' i' h)

/-- **C11** fault containment: whatever the fault plan, every value returned at any point of any history is the value of the
undisturbed computation -/
theorem C11_fault_containment (S : Sys V) (den : SId → Idx → V) (hc : Consistent S den) (fuel : Nat) (reqs : List Req)
    (s : SId) (i : Idx) (v : V)
    (h : (s, i, Except.ok v) ∈ (replay S fuel reqs { cache := [], calls := 0, log := [] }).1) : v = den s i :=
  C10_history_independent S den hc fuel reqs s i v h

/-- **C11** reusable: the state left behind by any history (with any faults) is a state in which every cached value is correct and
nothing is pending — so a later request is indistinguishable from one on a fresh computation that has evaluated a subset of the elements -/
theorem C11_reusable (S : Sys V) (den : SId → Idx → V) (hc : Consistent S den) (fuel : Nat) (reqs : List Req) :
    Inv den (replay S fuel reqs { cache := [], calls := 0, log := [] }).2 ∧
    ∀ s i, (replay S fuel reqs { cache := [], calls := 0, log := [] }).2.get s i ≠ some .pending :=
  ⟨(replay_inv S den hc fuel reqs _ (fun _ _ _ h => by simp [World.get] at h)).1,
   C11_history_leaves_no_marker S fuel reqs _ (fun _ _ h => by simp [World.get] at h)⟩

/-! non-vacuity: a system whose first callback raises a RuntimeError: the request fails (wrapped), the repetition succeeds -/
def faultySys : Sys Val where
  defs := fun _ _ => .user 0 [] fun _ => .pure (.num 3)
  isZero := fun v => v == .zero
  userSem := fun _ _ => .zero
  fault := fun k => if k == 0 then some (.runtime 0) else none

example : (replay faultySys 10 [.get 0 [1], .get 0 [1]] { cache := [], calls := 0, log := [] }).1
    = [(0, [1], .error .wrapped), (0, [1], .ok (.num 3))] := by rfl

end Props
end Pyma
