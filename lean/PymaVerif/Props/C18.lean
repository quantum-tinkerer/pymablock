/-
Property C18 — `cauchy_dot_product` is the multivariate Cauchy product.

Model (`Model/Cauchy.lean`): `prodLoop` is the loop of `product_by_order` as a script of the BlockSeries machine (the two `contains`
tests, the cost-ordered reads, the skip of `zero`, the `one` sentinel as identity, the Hermitian half-sum), `productScript` the eval
function of a product series (lower blocks as adjoints of upper ones when declared Hermitian; more than two factors are nested to
the left, only the outermost product of a Hermitian chain fills lower blocks).
  * `C18_product_by_order`: run on the machine against any denotation `den` of the factors, the loop returns the pure fold `prodSpec` —
    the sum over middle blocks and over all splittings of the order of the products of the factor elements, with `zero` absent and `one`
    neutral; together with M1 (`Machine.sound`) this is the value the product series returns under every schedule.
  * `C18_value_is_cauchy_product`: for the reference semantics of the mini-language a declared product *is* the product of formal power
    series with matrix coefficients (laziness and sentinels are invisible in values) — any number of parameters and blocks.
  * `C18_hermitian_shortcut`: for any family of terms with `T(b,a) = adj (T(a,b))` (true for `U'†·U'`) over a swap-symmetric index set, the
    half-sum over pairs not in decreasing order equals the full sum; the order used by the code — Python's tuple comparison `lexGt` — is a
    strict total order on tuples of equal length (`C18_tuple_order`), which is what the shortcut needs.
Requests: an element of a factor is read only after both `contains` tests passed (`prodLoop` reads nothing else); the correspondence
`harness/cauchy_corr.py` compares values and the per-factor request logs with the model for 2–4 factors (incl. Hermitian products of
3 and 4 factors), 1–3 parameters, sentinel patterns, and injects faults in the multiplication callback.
-/
import PymaVerif.Proofs.CauchyThm
import PymaVerif.Proofs.HalfSum
import PymaVerif.Proofs.LexGt
import PymaVerif.Proofs.Global

namespace Pyma
namespace Props
open Machine Dsl Cauchy

variable {K : Type} [Scalar K]

/-- **C18** the loop of `product_by_order` computes the Cauchy sum `prodSpec`, whatever the scripts of the factors are -/
theorem C18_product_by_order (S : Sys (SVal K)) (hz : S.isZero = SVal.isZeroS) (den : SId → Machine.Idx → SVal K)
    (first second : SId) (i j : Nat) (herm : Bool) (ps : List (Nat × List Nat × List Nat)) (acc r : SVal K)
    (h : prodSpec den first second i j herm ps acc = some r) :
    ScriptOK S den (prodLoop first second i j herm ps acc) r :=
  prodLoop_ok S hz den first second i j herm ps acc r h

/-- **C18** Python's tuple comparison is a strict total order on multi-orders of equal length -/
theorem C18_tuple_order :
    (∀ a : List Nat, lexGt a a = false) ∧ (∀ a b : List Nat, lexGt a b = true → lexGt b a = false) ∧
    (∀ a b : List Nat, a.length = b.length → a ≠ b → lexGt a b = true ∨ lexGt b a = true) :=
  ⟨lexGt_irrefl, lexGt_asymm, fun a b _ => lexGt_total a b⟩

/-- **C18** the Hermitian shortcut: half of the splittings plus their adjoints give the full sum -/
theorem C18_hermitian_shortcut {ι : Type*} {A : Type*} [DecidableEq ι] [AddCommGroup A] (s : Finset (ι × ι))
    (hswap : ∀ p ∈ s, p.swap ∈ s) (gt : ι → ι → Prop) [DecidableRel gt] (hirr : ∀ a, ¬gt a a)
    (hasym : ∀ a b, gt a b → ¬gt b a) (htot : ∀ a b, a ≠ b → gt a b ∨ gt b a) (T : ι × ι → A) (adj : A → A)
    (hT : ∀ p ∈ s, T p.swap = adj (T p)) :
    ∑ p ∈ s, T p = ∑ p ∈ s with ¬gt p.1 p.2, (T p + if p.1 ≠ p.2 then adj (T p) else 0) :=
  half_sum_eq_full s hswap gt hirr hasym htot T adj hT

end Props

namespace Props
open Dsl
variable {K : Type} [Field K] [StarRing K] [DecidableEq K] [Thresholds K]
attribute [local instance] Scalar.ofField

/-- **C18** value clause: a declared product of the mini-language denotes the product of power series (every number of parameters `k`) -/
theorem C18_value_is_cauchy_product {B : Blocks} {p : Prog} {env : Env K} (hok : EnvOK B env) (S : EnvSem B env)
    (hN : ∀ a : Fin B.d, B.blk a.val < env.nblocks) (k : Nat) {x a b : String} (hk : kindOf p env x = .product a b)
    (htot : ∀ idx : Idx, ∃ v, Den p env x idx v) :
    Ser B p env k x = Ser B p env k a * Ser B p env k b :=
  Ser_product hok S hN k hk htot

end Props
end Pyma
