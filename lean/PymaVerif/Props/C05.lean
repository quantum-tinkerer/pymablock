/-
Property C05 — non-Hermitian mode.  PARTIAL, and the full statement is refuted for the shipped recurrences.

FULL statement (the property): for every accepted `hermitian=False` problem, `U_inv·U = U·U_inv = 1`, `U_inv·H·U = H̃` on kept
entries and `0` on eliminated ones (asymmetric masks included), `U − U_inv` has no kept entry; on Hermitian input the outputs
coincide with the Hermitian mode.

PROVED (`C05_partial`, `C05_hermitian_limit_partial`): exactly that, for the program `Generated.nonhermitian` translated from the
current `algorithms.py`, on every problem satisfying `AcceptedN` — which asks neither Hermiticity nor a symmetric mask, but
requires every *kept* pair of states to have equal unperturbed energies (`kept_deg`).

REFUTED beyond that hypothesis (`C05_full_statement_fails`, kernel-evaluated on the translated program): `H_0 = diag(0,1,3)`,
blocks `{0,1}|{2}`, `H_1` = ones off the diagonal, default flags: `(U_inv·H·U)_2[0,1] = −5/12` but `(H̃)_2[0,1] = −1/2`.
The implementation returns the same numbers: this is the known finding D5 (`known_findings.json`), the dropped `[H_0, U'_S]`
in the diagonal clause of `X`.
-/
import PymaVerif.Proofs.NhAccepted
import PymaVerif.Proofs.NhWitness
import PymaVerif.Proofs.D5Witness
import PymaVerif.Proofs.DriverThm

namespace Pyma
namespace Props
open Dsl Generated MvPowerSeries BlockDiag BlockDiag.Problem

variable {K : Type} [Field K] [StarRing K] [DecidableEq K] [Thresholds K] [LawfulThresholds K]
attribute [local instance] Scalar.ofField
variable {p : Problem K}

/-- **C05 (partial)** inverse pair, similarity, elimination and gauge for every `AcceptedN` problem -/
theorem C05_partial (h : p.AcceptedN) (h2 : (2 : K) ≠ 0) :
    Nh.sr p "U†" * Nh.sr p "U" = 1 ∧ Nh.sr p "U" * Nh.sr p "U†" = 1 ∧
    Nh.sr p "U†" * Nh.sr p "H" * Nh.sr p "U" = Nh.sr p "H_tilde" ∧
    (∀ m (a b : Fin p.d), p.keptE a.val b.val = false → coeff m (Nh.sr p "H_tilde") a b = 0) ∧
    (∀ m (a b : Fin p.d), p.keptE a.val b.val = true → coeff m (Nh.sr p "U" - Nh.sr p "U†") a b = 0) :=
  Problem.C05_partial h h2

/-- **C05 (partial)** on Hermitian accepted input with degenerate kept pairs the non-Hermitian program returns exactly the
three series of the Hermitian program -/
theorem C05_hermitian_limit_partial (h : p.Accepted)
    (hk : ∀ a b : Fin p.d, p.keptE a.val b.val = true → p.energy a.val = p.energy b.val) (h2 : (2 : K) ≠ 0) :
    Nh.sr p "U" = p.sr "U" ∧ Nh.sr p "U†" = p.sr "U†" ∧ Nh.sr p "H_tilde" = p.sr "H_tilde" :=
  Problem.C05_hermitian_limit h hk h2

omit [LawfulThresholds K] in
/-- the evaluator answers every element of `nonhermitian` on every `AcceptedN` problem -/
theorem C05_driver_total (h : p.AcceptedN) (x : String) (hx : x ∈ nhNames) (idx : Idx) :
    ∃ fuel v c', getElem nonhermitian p.env fuel x idx ∅ = .ok (v, c') :=
  Problem.driver_total_nh h x hx idx

/-- **the full statement fails** for the shipped recurrences (kernel-evaluated counterexample on the translated program) -/
theorem C05_full_statement_fails : d5lhs = some (-5/12) ∧ d5entry "H_tilde" 2 0 1 = some (-1/2) ∧
    d5lhs ≠ d5entry "H_tilde" 2 0 1 :=
  ⟨d5_lhs, d5_rhs, D5_witness⟩

/-- non-vacuity of the partial theorem -/
example : Nh.sr n2 "U†" * Nh.sr n2 "U" = 1 := (C05_partial n2_accepted (by norm_num)).1

end Props
end Pyma
