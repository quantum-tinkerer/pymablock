/-
Property C12 — lazy and causal: order `n` uses only Hamiltonian terms of order `≤ n`.

  * `C12_causal` (every program of the mini-language, hence both shipped algorithms and every flag setting): if two input series agree at
    all orders `≤ n` componentwise, every element at order `n` has the same value — "the returned value does not change when any other
    Hamiltonian term is altered".  Theorem D (`Holds.mapOn`) with the identity as map: the product rule only visits splittings of `n`.
  * `C12_each_term_at_most_once`: inputs are never deleted, so on the machine every input element is evaluated at most once (exactly-once
    theorem of the BlockSeries machine, pop-free scripts).
  * definition-time laziness (nothing but order zero is evaluated when the computation is defined) is a fact about the wiring in
    `block_diagonalize`/`series_computation`; it is decided by the correspondence `harness/lazy_corr.py` on a logging Hamiltonian (explicit and
    implicit set-ups, both algorithms, scalar / list / zipped-list requests, garbage and raising terms outside the cone).
-/
import PymaVerif.Proofs.Causal
import PymaVerif.Proofs.MachineOnce

namespace Pyma
namespace Props
open Dsl

variable {K : Type} [Scalar K]

/-- **C12** causality of the reference semantics, for every program -/
theorem C12_causal {p : Prog} {env : Env K} (inp : String → Idx → SVal K) {x : String} {idx : Idx} {v : SVal K}
    (h : Den p env x idx v) (hag : AgreeUpTo env inp idx.n) : Den p (env.withInput inp) x idx v :=
  Den.causal inp h hag

/-- the same for every kind of judgement (expressions, clause lists, product loops) -/
theorem C12_causal_all {p : Prog} {env : Env K} (inp : String → Idx → SVal K) {j : J K} {v : SVal K}
    (h : Holds p env j v) (hok : j.ok) (hag : AgreeUpTo env inp j.ord) : Holds p (env.withInput inp) j v :=
  Holds.causal inp h hok hag

/-- **C12** at most once: in any successful pop-free execution from empty caches no element is evaluated twice -/
theorem C12_each_term_at_most_once {V : Type} (S : Machine.Sys V) (hdefs : ∀ s i, Machine.NoPop (S.defs s i)) (f : Nat)
    (sc : Machine.Script V) (hsc : Machine.NoPop sc) (v : V) (h : (Machine.run S f sc ⟨[], 0, []⟩).1 = .ok v) :
    (Machine.run S f sc ⟨[], 0, []⟩).2.log.Nodup :=
  Machine.log_nodup S hdefs f sc hsc v h

end Props
end Pyma
