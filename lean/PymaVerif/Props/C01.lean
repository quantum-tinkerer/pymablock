/-
Property C01 — Hermitian mode: `U† H U` equals `H̃` on kept entries and vanishes on eliminated ones, at every order.

Subject of the theorems: `p.sr x`, the formal power series (in `p.nparams` parameters, with `d × d` matrix coefficients)
of the values that the reference semantics of the mini-language assigns to series `x` of the program
`Generated.main` — the program *translated from the current `pymablock/algorithms.py`* — in the scope that the model of
`block_diagonalize` (`BlockDiag.Problem.env`) wires up.  `driver_sound` ties these series to what the executable
evaluator (the Lean driver compared with the implementation in the correspondence run) returns.
`p.sr "H"` is the *input* series; the statement reads `U`, `U†` and `H`, it is not read off the masked `H̃`.

Quantification: every field `K` with involution and `2 ≠ 0`, every dimension, number and sizes of blocks, number of
parameters, set of perturbation terms at arbitrary multi-orders, `fully_diagonalize` absent / tuple / dict of masks,
both settings of the two-block optimisation and every commuting-block pattern — all problems satisfying the decidable
predicate `Accepted` (what `block_diagonalize` accepts on its exact Hermitian path).

Tolerance.  The model decides "equal unperturbed energies" as the code does, with `atol` (`equalEigs`), and a fully diagonalised block keeps together the
levels connected by steps below `atol` (`sameLevel` = `Closure.closure`, the model of `_transitive_closure`).  `Accepted` carries the clause
`comm_trans` — the kept part of a block the algorithm treats as commuting is transitive — which the proof of `B`/`Yadj` needs; code that decides
"equal within atol" pair by pair does *not* meet it for chains of close levels (defect D37).  For the repaired code
and the model of its closure the clause is a theorem (`C01_kept_pattern_transitive`), and `C01_chains_of_close_levels` states C01 for
`AcceptedCore` = `Accepted` without it.
-/
import PymaVerif.Proofs.Accepted
import PymaVerif.Proofs.DriverThm
import PymaVerif.Proofs.Witness
import PymaVerif.Proofs.LevelsThm

namespace Pyma
namespace Props
open Dsl Generated MvPowerSeries BlockDiag BlockDiag.Problem

variable {K : Type} [Field K] [StarRing K] [DecidableEq K] [Thresholds K] [LawfulThresholds K]
attribute [local instance] Scalar.ofField
variable {p : Problem K}

/-- **C01** the Cauchy product `U† · H · U` of the returned series with the input series is the returned `H̃`,
as formal power series, i.e. at every multi-order and every matrix entry. -/
theorem C01_similarity (h : p.Accepted) (h2 : (2 : K) ≠ 0) :
    p.sr "U†" * p.sr "H" * p.sr "U" = p.sr "H_tilde" :=
  Problem.C01 h h2

/-- **C01** elimination: every entry of `U† · H · U` that is not kept (other block, or selected for elimination by the
mask of a fully diagonalised block) vanishes at every order. -/
theorem C01_eliminated (h : p.Accepted) (h2 : (2 : K) ≠ 0) (m : Fin p.nparams →₀ ℕ) (a b : Fin p.d)
    (hk : p.keptE a.val b.val = false) :
    coeff m (p.sr "U†" * p.sr "H" * p.sr "U") a b = 0 :=
  Problem.C01_elim h h2 m a b hk

omit [LawfulThresholds K] in
/-- what the executable evaluator returns *is* the coefficient of the series of the theorems -/
theorem C01_driver_sound (fuel : Nat) (x : String) (m : Fin p.nparams →₀ ℕ) (a b : Fin p.d)
    (v : SVal K) (c' : Cache K)
    (hrun : getElem main p.env fuel x ⟨p.blk a.val, p.blk b.val, toList m⟩ ∅ = .ok (v, c')) :
    coeff m (p.sr x) a b = sem p.blocks ⟨p.blk a.val, p.blk b.val, toList m⟩ v a b :=
  Problem.driver_sound p fuel x m a b v c' hrun

omit [LawfulThresholds K] in
/-- on every accepted problem the evaluator does return a value for every element of every series of `main` -/
theorem C01_driver_total (h : p.Accepted) (x : String) (hx : x ∈ mainNames) (idx : Idx) :
    ∃ fuel v c', getElem main p.env fuel x idx ∅ = .ok (v, c') :=
  Problem.driver_total h x hx idx

/-- **C01** the transitivity clause of `Accepted` is not a condition on the input: what a fully diagonalised block keeps together (the code's
`_transitive_closure` of "equal within atol") is an equivalence whatever the energies and the tolerance -/
theorem C01_kept_pattern_transitive (a b c : Fin p.d) (hc : p.commuting (p.blk a.val) = true)
    (hab : p.keptE a.val b.val = true) (hcb : p.keptE c.val b.val = true) : p.keptE a.val c.val = true :=
  comm_trans_holds a b c hc hab hcb

omit [LawfulThresholds K] in
/-- **C01** what a fully diagonalised block keeps together, spelled out: two states are kept together exactly when a chain of states of the block joins them whose
consecutive levels are equal within `atol` (the model of `_transitive_closure(equal_eigs)`, i.e. of the labels of `connected_components`) -/
theorem C01_kept_together_iff_chain (a b : Nat) :
    p.sameLevel a b = true ↔ Relation.TransGen (fun x y => x < p.d ∧ y < p.d ∧ p.closeIn x y = true) a b :=
  Closure.closure_iff_chain

/-- **C01** masks and denominators agree: inside a block fully diagonalised by the list form, an entry that is not kept is one whose energy difference the
diagonal solver divides by (`|ΔE| > atol`); "equal" is `|ΔE| ≤ atol`, the complement (defect D38: with `<`, `|ΔE| = atol` belongs to neither) -/
theorem C01_masks_and_denominators_agree (a b : Fin p.d) (hblk : p.blk a.val = p.blk b.val) (l : List Nat) (hfd : p.fdEff = .tuple l)
    (hk : p.keptE a.val b.val = false) : Scalar.absGt (p.energy a.val - p.energy b.val) p.atol = true :=
  gap_same_block_tuple a.isLt b.isLt hblk hfd hk

/-- **C01** without the transitivity clause: `U†·H·U = H̃` and the zeros on the eliminated entries for every problem that meets the remaining clauses
(`AcceptedCore`), in particular when levels are equal within `atol` only through a chain of neighbours -/
theorem C01_chains_of_close_levels (h : p.AcceptedCore) (h2 : (2 : K) ≠ 0) :
    p.sr "U†" * p.sr "H" * p.sr "U" = p.sr "H_tilde" ∧
      ∀ (m : Fin p.nparams →₀ ℕ) (a b : Fin p.d), p.keptE a.val b.val = false → coeff m (p.sr "U†" * p.sr "H" * p.sr "U") a b = 0 :=
  ⟨Problem.C01 h.accepted h2, fun m a b hk => Problem.C01_elim h.accepted h2 m a b hk⟩

/-- **C01** for the list form (or the absence) of `fully_diagonalize` nothing is asked of the masks — symmetry, kept diagonal, gap and transitivity are
theorems about the model of the code's mask construction —: `U†·H·U = H̃` and the zeros on the eliminated entries for every problem whose *input* is
well-formed (`InputOK`: shapes, `atol ≥ 0`, Hermitian terms, diagonal `H_0`, energies of different blocks apart), whatever the levels inside a block -/
theorem C01_every_list_form_problem (h : p.InputOK) (h2 : (2 : K) ≠ 0) :
    p.sr "U†" * p.sr "H" * p.sr "U" = p.sr "H_tilde" ∧
      ∀ (m : Fin p.nparams →₀ ℕ) (a b : Fin p.d), p.keptE a.val b.val = false → coeff m (p.sr "U†" * p.sr "H" * p.sr "U") a b = 0 :=
  ⟨Problem.C01 h.accepted h2, fun m a b hk => Problem.C01_elim h.accepted h2 m a b hk⟩

/-- **C01** for masks given by the caller: besides the input facts, exactly the two facts about the masks that `block_diagonalize` checks (C20:
`C20_asymmetric_mask`, `C20_mask_eliminates_degenerate_pair`) — symmetric, and no entry selected between levels equal within `atol` — are needed -/
theorem C01_every_masked_problem (h : p.MasksOK) (h2 : (2 : K) ≠ 0) :
    p.sr "U†" * p.sr "H" * p.sr "U" = p.sr "H_tilde" ∧
      ∀ (m : Fin p.nparams →₀ ℕ) (a b : Fin p.d), p.keptE a.val b.val = false → coeff m (p.sr "U†" * p.sr "H" * p.sr "U") a b = 0 :=
  ⟨Problem.C01 h.accepted h2, fun m a b hk => Problem.C01_elim h.accepted h2 m a b hk⟩

/-! Non-vacuity: concrete accepted problems over ℚ — three 1×1 blocks; two blocks with a partial mask on one of them and a
degenerate kept pair; the default two-block call (optimised flags on); a single block with two parameters. -/
example : w3.sr "U†" * w3.sr "H" * w3.sr "U" = w3.sr "H_tilde" := C01_similarity w3_accepted (by norm_num)
example : wd.sr "U†" * wd.sr "H" * wd.sr "U" = wd.sr "H_tilde" := C01_similarity wd_accepted (by norm_num)
example : w2.sr "U†" * w2.sr "H" * w2.sr "U" = w2.sr "H_tilde" := C01_similarity w2_accepted (by norm_num)
-- two blocks, `fully_diagonalize=[0]`, the two levels of the first block exactly `atol` apart
example : wlist.sr "U†" * wlist.sr "H" * wlist.sr "U" = wlist.sr "H_tilde" := (C01_every_list_form_problem wlist_input (by norm_num)).1
example : wall.sr "U†" * wall.sr "H" * wall.sr "U" = wall.sr "H_tilde" := (C01_every_list_form_problem wall_input (by norm_num)).1
example : wd.sr "U†" * wd.sr "H" * wd.sr "U" = wd.sr "H_tilde" := (C01_every_masked_problem wd_masks (by norm_num)).1
-- a chain of levels 0, 7, 14 under `atol = 10` in a fully diagonalised block: the ends are farther apart than `atol` and kept together all the same
example : wchain.sr "U†" * wchain.sr "H" * wchain.sr "U" = wchain.sr "H_tilde" := (C01_chains_of_close_levels wchain_core (by norm_num)).1
example : w1.sr "U†" * w1.sr "H" * w1.sr "U" = w1.sr "H_tilde" := C01_similarity w1_accepted (by norm_num)
example : wd.keptE 0 1 = false ∧ wd.keptE 2 3 = true ∧ wd.twoBlockOptimized = false ∧ w2.twoBlockOptimized = true := by
  decide +kernel

end Props
end Pyma
