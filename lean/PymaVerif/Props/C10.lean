/-
Property C10 — results are independent of the evaluation history; (values handed out are not mutated: harness only).

Model (`Model/Machine.lean`): the BlockSeries state machine — per series a cache of `pending | val v` cells, `getItem` with the
PENDING mark and the try/except clean-up of `series.py`, eval functions as *scripts* (a free monad of `get`, `contains`, `pop`, a user
callback that may fail, `fail`), so the theorems quantify over ALL eval functions, not the shipped ones.  `den` is any family of values with
which every script is *consistent* (`Consistent`: run against reads answered by `den`, the script of element `(s,i)` returns `den s i`;
a `contains` test may answer `true` for anything and `false` only for the zero sentinel).  For the shipped algorithms `den` is the reference
semantics and consistency of the compiled bodies is C09 (`compile_sound`).

On top of M1 (`Machine.sound`): a history is a list of requests `Req` (reads and `pop`s); `replay` runs it and records what every read
returns.  `C10_history_independent`: from the empty caches, after ANY history of requests — element reads on any series, `pop`s of any cached
element (the deletion of once-used intermediates), requests that fail at any callback invocation with any exception, in any
interleaving, with any fuel — every value a read returns is `den`, i.e. the value a fresh computation returns.
The mutation clause of the property (caller's arrays and values already handed out are not modified) cannot be exhibited by a model with
immutable values; it is decided by the correspondence alone (`harness/bd_corr.py`: value-level snapshots of the input containers, arrays and
returned values before and after every run).
-/
import PymaVerif.Proofs.MachineThm
import PymaVerif.Proofs.DslDet

namespace Pyma
namespace Props
open Machine

variable {V : Type}

inductive Req where
  | get (s : SId) (i : Idx)
  | pop (s : SId) (i : Idx)

def replay (S : Sys V) (fuel : Nat) : List Req → World V → List (SId × Idx × Except Err V) × World V
  | [], w => ([], w)
  | .get s i :: rest, w =>
      let (r, w') := getItem S fuel s i w
      let (out, w'') := replay S fuel rest w'
      ((s, i, r) :: out, w'')
  | .pop s i :: rest, w => replay S fuel rest (w.set s i none)

theorem replay_inv (S : Sys V) (den : SId → Idx → V) (hc : Consistent S den) (fuel : Nat) (reqs : List Req) (w : World V)
    (hw : Inv den w) :
    Inv den (replay S fuel reqs w).2 ∧
    ∀ s i v, (s, i, Except.ok v) ∈ (replay S fuel reqs w).1 → v = den s i := by
  induction reqs generalizing w with
  | nil => exact ⟨hw, fun _ _ _ h => by cases h⟩
  | cons r rest ih =>
    cases r with
    | get s i =>
      have h1 := getItem_sound hc fuel s i hw
      have h2 := ih (getItem S fuel s i w).2 h1.1
      simp only [replay]
      refine ⟨h2.1, ?_⟩
      intro s' i' v hmem
      rcases List.mem_cons.mp hmem with h | h
      · obtain ⟨rfl, h⟩ := Prod.mk.inj h
        obtain ⟨rfl, hr⟩ := Prod.mk.inj h
        exact h1.2 v hr.symm
      · exact h2.2 s' i' v h
    | pop s i =>
      simp only [replay]
      exact ih _ (inv_set hw s i none nofun)

/-- **C10** every value returned anywhere in any history equals the denotation — the value of a fresh computation -/
theorem C10_history_independent (S : Sys V) (den : SId → Idx → V) (hc : Consistent S den) (fuel : Nat) (reqs : List Req)
    (s : SId) (i : Idx) (v : V)
    (h : (s, i, Except.ok v) ∈ (replay S fuel reqs { cache := [], calls := 0, log := [] }).1) : v = den s i :=
  (replay_inv S den hc fuel reqs _ (fun _ _ _ h => by simp [World.get] at h)).2 s i v h

/-- two histories agree on every element both of them obtain -/
theorem C10_two_histories_agree (S : Sys V) (den : SId → Idx → V) (hc : Consistent S den) (f₁ f₂ : Nat) (h₁ h₂ : List Req)
    (s : SId) (i : Idx) (v₁ v₂ : V)
    (a : (s, i, Except.ok v₁) ∈ (replay S f₁ h₁ { cache := [], calls := 0, log := [] }).1)
    (b : (s, i, Except.ok v₂) ∈ (replay S f₂ h₂ { cache := [], calls := 0, log := [] }).1) : v₁ = v₂ := by
  rw [C10_history_independent S den hc f₁ h₁ s i v₁ a, C10_history_independent S den hc f₂ h₂ s i v₂ b]

/-- the reference semantics the denotation comes from assigns at most one value to every element (so "the value of a fresh
computation" is well defined for every program of the mini-language) -/
theorem C10_semantics_deterministic {K : Type} [Scalar K] {p : Dsl.Prog} {env : Dsl.Env K} {j : Dsl.J K} {v w : Dsl.SVal K}
    (hv : Dsl.Holds p env j v) (hw : Dsl.Holds p env j w) : v = w :=
  Dsl.Holds.det hv w hw

/-! non-vacuity: a two-series system (series 1 reads series 0 and pops it) is consistent, and a history with a pop in between
returns the same value twice -/
def demoSys : Sys Val where
  defs := fun s i => match s with
    | 0 => .pure (.num 7)
    | _ => .get 0 i fun v => .pop 0 i (.pure v)
  isZero := fun v => v == .zero
  userSem := fun _ _ => .zero
  fault := fun _ => none

theorem demo_consistent : Consistent demoSys (fun _ _ => .num 7) := by
  intro s i
  cases s with
  | zero => exact .pure _
  | succ n => exact .get _ _ _ _ (.pop _ _ _ _ (.pure _))

example : (replay demoSys 10 [.get 1 [0], .pop 1 [0], .get 1 [0], .get 0 [0]] { cache := [], calls := 0, log := [] }).1
    = [(1, [0], .ok (.num 7)), (1, [0], .ok (.num 7)), (0, [0], .ok (.num 7))] := by rfl

end Props
end Pyma
