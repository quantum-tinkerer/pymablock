/-
Property C13 — multi-parameter order bookkeeping is consistent (scale, merge, permute, pad, substitute).

Method: *transport through uniqueness* (C03).  A star-preserving ring homomorphism `T` of the algebra of formal power series with matrix
coefficients that respects the degree filtration and the kept-part projection maps the solution of the defining equations for `H` to the solution
for `T H` (`C13_transport`); since the computed `U' = U − 1` is that unique solution (C01–C03), `U'(T H) = T (U'(H))` — and likewise for `U†` (its
adjoint) and `H̃ = U† H U`.  Instances proved here:
  * `C13_scale`: `H(λ) ↦ H(cλ)`, `c` real (each parameter: compose), every order `n` of the outputs is multiplied by `c^{|n|}` (`rescaleS`);
  * `C13_permute`: relabelling the multi-orders by any degree-preserving additive equivalence of the exponent lattice — in particular a permutation of
    the parameters (`Finsupp.domCongr`) — relabels every order of the outputs (`permS`).
  * `C13_reindex`: re-indexing along ANY injective additive map `φ` of multi-orders that does not lower the total degree (push-forward `pushS`, a ring
    homomorphism between series in possibly different numbers of variables): order `φ m` of the outputs of the re-indexed problem is order `m` of the original,
    orders outside the image of `φ` vanish.  Instances: `C13_power_substitution` (`λ ↦ λ^r`: `m ↦ r·m`) and `C13_pad` (a vanishing extra parameter:
    `m ↦ (m, 0)`) — "only relabels orders".
  * `C13_fibred`: the same for additive maps with *finite fibres* that need not be injective — order `n` of the push-forward is the sum over the fibre; instance
    `C13_merge`: giving two perturbations the same parameter yields at order `n` the sum of the two-parameter results over `n₁ + n₂ = n`.
All five relations of the property are thus theorems about the model (for `U' = U − 1`; `U† = (U)†` and `H̃ = U†HU` follow by C01/C02).  The key / symbol-order /
Taylor bookkeeping of the input normalisation: `C13_symbols_sorted`, `C13_keys_order_irrelevant`, `C13_list_keys`, `C14_taylor_expansion`; everything is also
compared between pairs of real runs by `harness/covar_corr.py`, `format_corr.py`, `taylor_corr.py`, `keys_corr.py`.
-/
import PymaVerif.Proofs.Covariance
import PymaVerif.Proofs.FormatsThm

namespace Pyma
namespace Props
open BlockDiag BlockDiag.Problem

/-- **C13/C15** transport: a homomorphism between two defining problems maps the solution of one to the solution of the other -/
theorem C13_transport {S : Type*} [Ring S] [StarRing S] {S' : Type*} [Ring S'] [StarRing S'] {c : TheoremU.Ctx S}
    (c' : TheoremU.Ctx S') {T : S →+* S'} {z : S'} (hT : TheoremU.Hom c c' T z) {P : S} {P' : S'}
    (hP : TheoremU.Sol c P) (hP' : TheoremU.Sol c' P') : T P = P' :=
  TheoremU.transport c' hT hP hP'

variable {K : Type} [Field K] [StarRing K] [DecidableEq K] [Thresholds K] [LawfulThresholds K]

/-- **C13** scaling: if the second problem's Hamiltonian is `H(cλ)` (same kept pattern), its `U − 1` is the first one's evaluated at `cλ`, i.e.
order `n` is multiplied by `c^{|n|}` -/
theorem C13_scale (p : Problem K) (ts : List (List ℕ × Mat K)) (hp : p.Accepted) (hq : (p.withTerms ts).Accepted) (h2 : (2 : K) ≠ 0)
    (c : K) (hc : star c = c) (hkept : ∀ a b : Fin p.d, (p.withTerms ts).keptE a.val b.val = p.keptE a.val b.val)
    (hH : (p.withTerms ts).sr "H" = rescaleS c (p.sr "H")) :
    (p.withTerms ts).sr "U'" = rescaleS c (p.sr "U'") :=
  Problem.C13_scale p ts hp hq h2 c hc hkept hH

/-- **C13** permuting (relabelling) the parameters permutes the order indices of the outputs -/
theorem C13_permute (p : Problem K) (ts : List (List ℕ × Mat K)) (hp : p.Accepted) (hq : (p.withTerms ts).Accepted) (h2 : (2 : K) ≠ 0)
    (E : (Fin p.nparams →₀ ℕ) ≃+ (Fin p.nparams →₀ ℕ)) (hdeg : ∀ m, (E m).degree = m.degree)
    (hkept : ∀ a b : Fin p.d, (p.withTerms ts).keptE a.val b.val = p.keptE a.val b.val)
    (hH : (p.withTerms ts).sr "H" = permS E (p.sr "H")) :
    (p.withTerms ts).sr "U'" = permS E (p.sr "U'") :=
  Problem.C13_permute p ts hp hq h2 E hdeg hkept hH

/-- **C13** re-indexing of orders along an injective additive map that does not lower the degree -/
theorem C13_reindex (p : Problem K) (k' : ℕ) (ts : List (List ℕ × Mat K)) (hp : p.Accepted) (hq : (p.reparam k' ts).Accepted) (h2 : (2 : K) ≠ 0)
    (R : Reindex (Fin p.nparams) (Fin k')) (hdeg : ∀ m, m.degree ≤ (R.φ m).degree)
    (hkept : ∀ a b : Fin p.d, (p.reparam k' ts).keptE a.val b.val = p.keptE a.val b.val)
    (hH : (p.reparam k' ts).sr "H" = R.pushS (p.sr "H")) :
    (p.reparam k' ts).sr "U'" = R.pushS (p.sr "U'") :=
  Problem.C13_reindex p k' ts hp hq h2 R hdeg hkept hH

/-- **C13** re-indexing along an additive map with finite fibres: order `n` of the new outputs is the sum over the fibre of `n` -/
theorem C13_fibred (p : Problem K) (k' : ℕ) (ts : List (List ℕ × Mat K)) (hp : p.Accepted) (hq : (p.reparam k' ts).Accepted) (h2 : (2 : K) ≠ 0)
    (R : Fibred (Fin p.nparams) (Fin k')) (hdeg : ∀ m, m.degree ≤ (R.φ m).degree)
    (hkept : ∀ a b : Fin p.d, (p.reparam k' ts).keptE a.val b.val = p.keptE a.val b.val)
    (hH : (p.reparam k' ts).sr "H" = R.pushS (p.sr "H")) :
    (p.reparam k' ts).sr "U'" = R.pushS (p.sr "U'") :=
  Problem.C13_fibred p k' ts hp hq h2 R hdeg hkept hH

/-- **C13** merging: giving both perturbations of a two-parameter problem the same parameter yields at order `n` the sum of the two-parameter results over
`n₁ + n₂ = n` -/
theorem C13_merge (p : Problem K) (ts₂ ts₁ : List (List ℕ × Mat K)) (hp : (p.reparam 2 ts₂).Accepted)
    (hq : ((p.reparam 2 ts₂).reparam 1 ts₁).Accepted) (h2 : (2 : K) ≠ 0)
    (hkept : ∀ a b : Fin p.d, ((p.reparam 2 ts₂).reparam 1 ts₁).keptE a.val b.val = (p.reparam 2 ts₂).keptE a.val b.val)
    (hH : ((p.reparam 2 ts₂).reparam 1 ts₁).sr "H" = mergeFibred.pushS ((p.reparam 2 ts₂).sr "H")) :
    ((p.reparam 2 ts₂).reparam 1 ts₁).sr "U'" = mergeFibred.pushS ((p.reparam 2 ts₂).sr "U'") :=
  Problem.C13_fibred (p.reparam 2 ts₂) 1 ts₁ hp hq h2 mergeFibred mergeFibred_degree hkept hH

theorem C13_merge_degree (m : Fin 2 →₀ ℕ) : m.degree ≤ (mergeFibred.φ m).degree := mergeFibred_degree m

/-- **C13** substituting `λ ↦ λ^r` only relabels orders: order `r·m` of the new outputs is order `m` of the old ones, all other orders vanish -/
theorem C13_power_substitution (p : Problem K) (ts : List (List ℕ × Mat K)) (hp : p.Accepted) (hq : (p.reparam p.nparams ts).Accepted)
    (h2 : (2 : K) ≠ 0) (r : ℕ) (hr : 0 < r)
    (hkept : ∀ a b : Fin p.d, (p.reparam p.nparams ts).keptE a.val b.val = p.keptE a.val b.val)
    (hH : (p.reparam p.nparams ts).sr "H" = (powerReindex r hr).pushS (p.sr "H")) :
    (p.reparam p.nparams ts).sr "U'" = (powerReindex r hr).pushS (p.sr "U'") :=
  Problem.C13_reindex p p.nparams ts hp hq h2 (powerReindex r hr) (powerReindex_degree r hr) hkept hH

/-- **C13** adding a vanishing perturbation only relabels orders: order `(m, 0)` is order `m`, orders with a non-zero last component vanish -/
theorem C13_pad (p : Problem K) (ts : List (List ℕ × Mat K)) (hp : p.Accepted) (hq : (p.reparam (p.nparams + 1) ts).Accepted)
    (h2 : (2 : K) ≠ 0)
    (hkept : ∀ a b : Fin p.d, (p.reparam (p.nparams + 1) ts).keptE a.val b.val = p.keptE a.val b.val)
    (hH : (p.reparam (p.nparams + 1) ts).sr "H" = (padReindex p.nparams).pushS (p.sr "H")) :
    (p.reparam (p.nparams + 1) ts).sr "U'" = (padReindex p.nparams).pushS (p.sr "U'") :=
  Problem.C13_reindex p (p.nparams + 1) ts hp hq h2 (padReindex p.nparams) (padReindex_degree p.nparams) hkept hH

/-- **C13 (keys)** monomial keys: the symbols are strictly sorted by name as strings and are exactly those that occur -/
theorem C13_symbols_sorted (keys : List Formats.Monomial) :
    (Formats.symbolsOf keys).Pairwise (· < ·) ∧ ∀ t, t ∈ Formats.symbolsOf keys ↔ ∃ m ∈ keys, ∃ e, (t, e) ∈ m :=
  ⟨Formats.symbolsOf_sorted keys, Formats.mem_symbolsOf keys⟩

/-- **C13 (keys)** the order of the dictionary entries and of the factors of a key does not matter -/
theorem C13_keys_order_irrelevant {k₁ k₂ : List Formats.Monomial} (h : k₁.Perm k₂) : Formats.symbolsOf k₁ = Formats.symbolsOf k₂ :=
  Formats.symbolsOf_perm h
theorem C13_factor_order_irrelevant {m₁ m₂ : Formats.Monomial} (h : m₁.Perm m₂) (hn : (m₁.map (·.1)).Nodup) (s : String) :
    Formats.power m₁ s = Formats.power m₂ s :=
  Formats.power_perm h hn s

/-- **C13 (keys)** a list `[h_0, h_1, …, h_k]`: zeroth order, then one first-order term per parameter -/
theorem C13_list_keys (k : Nat) : (Formats.listKeys (k + 1)).head? = some (List.replicate k 0) ∧
    ∀ i, i < k → (Formats.listKeys (k + 1))[i + 1]? = some (Formats.unitVec k i) :=
  Formats.listKeys_spec k

/-- a permutation of the parameters is an equivalence as `C13_permute` asks for -/
theorem C13_permutation_preserves_degree {σ : Type} [DecidableEq σ] [Fintype σ] (e : σ ≃ σ) (m : σ →₀ ℕ) : (Finsupp.domCongr e m).degree = m.degree :=
  degree_domCongr e m

end Props
end Pyma
