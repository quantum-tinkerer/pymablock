/-
Property C15 — covariance under relabelling, degenerate rotation, shift, conjugation, (scaling, direct sums).

Two generic tools carry it, neither of which reasons about upper/lower blocks, first/last block or block 0:
  * transport through uniqueness (`C13_transport`, C03): instance `C15_shift` — two accepted problems whose Hamiltonians differ by `c·1` (real `c`) and keep
    the same entries have the same `U` (so `H̃` differs by `c·1` at order zero only);
  * ring-level naturality of the reference semantics (`sem_natural`): for every certified program, an additive, multiplicative, adjoint-preserving map `Φ`
    that commutes with inputs, solver and masks maps every element of every series of one run to that of the other.  Instances:
    `C15_conjugation` (entrywise complex conjugation of the Hamiltonian conjugates every series; real unperturbed energies) and
    `C15_rotation` (`X ↦ W†XW` for a unitary `W` mixing only states of the same block, the same unperturbed energy and the same keep/eliminate
    status: rotation inside degenerate levels, permutation of such states, relabelling inside a block).
  * `C15_same_pattern`, `C15_relabel`: `U` depends on the problem only through the Hamiltonian series and the *set of kept entries* — two accepted problems on the
    same states with any block labels, number of blocks, form of `fully_diagonalize` (indices or masks) and tolerance, the same Hamiltonian (up to `c·1`) and the same
    kept entries have the same `U`: relabelling or regrouping blocks, describing the same elimination pattern differently;
  * `C15_scale_whole`: `H ↦ s·H` leaves `U` unchanged (checked on the defining equations: scaling is not a ring map) — hence `H̃ ↦ s·H̃`.
Permutation of basis states across blocks and direct sums are not instantiated in Lean (they change the index type / need a block-diagonal embedding); for them the
property rests on the generic theorems plus the correspondence `harness/covar_corr.py`, which checks all the relations between pairs of real runs.  PARTIAL in that sense.
-/
import PymaVerif.Proofs.Covariance
import PymaVerif.Proofs.Conjugation
import PymaVerif.Proofs.Rotation
import PymaVerif.Proofs.Witness

namespace Pyma
namespace Props
open Dsl Generated MvPowerSeries BlockDiag BlockDiag.Problem

variable {K : Type} [Field K] [StarRing K] [DecidableEq K] [Thresholds K]
attribute [local instance] Scalar.ofField

/-- **C15** shift: `H ↦ H + c·1` leaves `U` unchanged -/
theorem C15_shift [LawfulThresholds K] (p : Problem K) (ts : List (List ℕ × Mat K)) (hp : p.Accepted) (hq : (p.withTerms ts).Accepted)
    (h2 : (2 : K) ≠ 0) (c : K) (hc : star c = c)
    (hkept : ∀ a b : Fin p.d, (p.withTerms ts).keptE a.val b.val = p.keptE a.val b.val)
    (hH : p.sr "H" = (p.withTerms ts).sr "H" + p.scalarS c) :
    p.sr "U'" = (p.withTerms ts).sr "U'" :=
  Problem.C15_shift p ts hp hq h2 c hc hkept hH

/-- **C15** complex conjugation of the Hamiltonian conjugates every element of every series of `main` -/
theorem C15_conjugation (p : Problem K) (ts : List (List ℕ × Mat K)) (hwf : p.WF) (hwf' : (p.withTerms ts).WF) (hns : p.NoShared)
    (hns' : (p.withTerms ts).NoShared) (hen : ∀ a : ℕ, (p.withTerms ts).energy a = p.energy a)
    (hreal : ∀ a : ℕ, star (p.energy a) = p.energy a)
    (habs : ∀ (x : K) (t : ℚ), Thresholds.absGt (star x) t = Thresholds.absGt x t)
    (hin : ∀ idx : Idx, sem (p.withTerms ts).blocks idx ((p.withTerms ts).inputH idx) = p.conjM ts (sem p.blocks idx (p.inputH idx)))
    (x : String) (hx : x ∈ mainNames) (idx : Idx) :
    mat (p.withTerms ts).blocks main (p.withTerms ts).env x idx = p.conjM ts (mat p.blocks main p.env x idx) :=
  Problem.C15_conjugation p ts hwf hwf' hns hns' hen hreal habs hin x hx idx

/-- **C15** a unitary that only mixes states of the same block, unperturbed energy and keep/eliminate status rotates every series -/
theorem C15_rotation (p : Problem K) (ts : List (List ℕ × Mat K)) (hwf : p.WF) (hwf' : (p.withTerms ts).WF) (hns : p.NoShared)
    (hns' : (p.withTerms ts).NoShared) (W : MatK K p.blocks) (hW : p.Compatible W)
    (hen : ∀ a : ℕ, (p.withTerms ts).energy a = p.energy a)
    (hin : ∀ idx : Idx, sem (p.withTerms ts).blocks idx ((p.withTerms ts).inputH idx) = p.rotM ts W (sem p.blocks idx (p.inputH idx)))
    (x : String) (hx : x ∈ mainNames) (idx : Idx) :
    mat (p.withTerms ts).blocks main (p.withTerms ts).env x idx = p.rotM ts W (mat p.blocks main p.env x idx) :=
  Problem.C14_rotation p ts hwf hwf' hns hns' W hW hen hin x hx idx

/-- **C15** the transformation depends only on the Hamiltonian (up to `c·1`) and on the set of kept entries -/
theorem C15_same_pattern [LawfulThresholds K] (p : Problem K) (ts : List (List ℕ × Mat K)) (bo : Array ℕ) (nb : ℕ) (fd : FD) (at_ : ℚ)
    (hp : p.Accepted) (hq : (p.reshape ts bo nb fd at_).Accepted) (h2 : (2 : K) ≠ 0) (c : K)
    (hkept : ∀ a b : Fin p.d, (p.reshape ts bo nb fd at_).keptE a.val b.val = p.keptE a.val b.val)
    (hH : p.sr "H" = (p.reshape ts bo nb fd at_).sr "H" + p.scalarS c) :
    p.sr "U'" = (p.reshape ts bo nb fd at_).sr "U'" :=
  Problem.C15_same_pattern p ts bo nb fd at_ hp hq h2 c hkept hH

/-- **C15** relabelling / regrouping blocks -/
theorem C15_relabel [LawfulThresholds K] (p : Problem K) (ts : List (List ℕ × Mat K)) (bo : Array ℕ) (nb : ℕ) (fd : FD) (at_ : ℚ)
    (hp : p.Accepted) (hq : (p.reshape ts bo nb fd at_).Accepted) (h2 : (2 : K) ≠ 0)
    (hkept : ∀ a b : Fin p.d, (p.reshape ts bo nb fd at_).keptE a.val b.val = p.keptE a.val b.val)
    (hH : p.sr "H" = (p.reshape ts bo nb fd at_).sr "H") :
    p.sr "U'" = (p.reshape ts bo nb fd at_).sr "U'" :=
  Problem.C15_relabel p ts bo nb fd at_ hp hq h2 hkept hH

/-- **C15** scaling the whole Hamiltonian leaves `U` unchanged -/
theorem C15_scale_whole [LawfulThresholds K] (p : Problem K) (ts : List (List ℕ × Mat K)) (bo : Array ℕ) (nb : ℕ) (fd : FD) (at_ : ℚ)
    (hp : p.Accepted) (hq : (p.reshape ts bo nb fd at_).Accepted) (h2 : (2 : K) ≠ 0) (s : K)
    (hkept : ∀ a b : Fin p.d, (p.reshape ts bo nb fd at_).keptE a.val b.val = p.keptE a.val b.val)
    (hH : (p.reshape ts bo nb fd at_).sr "H" = p.scalarS s * p.sr "H") :
    (p.reshape ts bo nb fd at_).sr "U'" = p.sr "U'" :=
  Problem.C15_scale_whole p ts bo nb fd at_ hp hq h2 s hkept hH

/-- non-vacuity: the three-block witness `w3` with its blocks relabelled `0,1,2 ↦ 2,0,1` -/
def w3r : Problem ℚ := w3.reshape w3.terms #[2, 0, 1] 3 .none w3.atol

theorem w3r_accepted : w3r.Accepted :=
  InputOK.accepted (InputFacts.inputOK (by decide +kernel))

example : w3.sr "U'" = w3r.sr "U'" := by
  apply C15_relabel w3 w3.terms #[2, 0, 1] 3 .none w3.atol w3_accepted w3r_accepted (by norm_num)
  · decide +kernel
  · ext m a b
    have h1 : coeff m (w3.sr "H") a b = _ := g_H w3_accepted.wf (toList m) a b
    have h2 : coeff m (w3r.sr "H") a b = _ := g_H (p := w3r) w3r_accepted.wf (toList m) a b
    exact h1.trans h2.symm

end Props
end Pyma
