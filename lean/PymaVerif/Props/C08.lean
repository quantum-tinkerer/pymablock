/-
Property C08 — NumberOrderedForm arithmetic faithfully represents the operator algebra.

Model (`Model/Nof.lean`, `Model/NofExpr.lean`): a form is a list of terms (powers per mode ↦ coefficient as a *function* of the
occupation numbers), the context `c` lists the kinds of the modes (boson, ladder, spin, fermion); `mul`, `add`, `adjoint`, `npow`,
`fromExpr` are models of `__mul__` (with `_multiply_op`, `_multiply_expr`), `__add__`, `adjoint`, `__pow__`, `from_expr`.
`ampF' c x s s''` is the matrix element `(s''| x |s)` of the form in the unnormalised occupation basis (`a|n) = n|n-1)`,
`a†|n) = |n+1)`, Jordan–Wigner signs for fermions), computed from the closed-form action `specAmpS` of a normal-ordered monomial.
Hypotheses: `FermionsLast c` (fermionic modes come last — the ordering invariant of the Python class), `WF2 c x` (the representation
invariant: finite modes carry powers in {-1,0,1} and a coefficient does not depend on `N_i` of a finite mode the term raises or lowers;
preserved by every operation: `C08_invariant_*`), `Valid c s` / `Phys c s` (occupations of finite modes are 0/1, of bosons ≥ 0).

Statements: the product is composition of kernels (`C08_product`), hence associativity, distributivity, units, powers; the adjoint is
the adjoint for the weighted form of the unnormalised basis and reverses products; `from_expr` of an operator expression has the kernel
of the composition of the generator actions (`C08_from_expr_roundtrip`), so converting and computing denotes the original operator.
Tied to the code by `harness/nof_corr.py` (implementation vs model vs an independent Fock / Jordan–Wigner oracle, exhaustive strata
of short words first).  Not modelled: SymPy's simplifier (a coefficient is its function of the occupation numbers, not an
expression), `as_expr` printing.
-/
import PymaVerif.Proofs.NofFermion
import PymaVerif.Proofs.NofAdjoint
import PymaVerif.Proofs.NofAssoc
import PymaVerif.Proofs.NofRoundTrip
import PymaVerif.Proofs.NofSpecEq

namespace Pyma
namespace Props
open Nof

/-- **C08** the product of two forms acts as the composition: `(s''| x·y |s) = Σ_{t ∈ y} (tgt t s| t |s) · (s''| x |tgt t s)` -/
theorem C08_product_monomial (c : Ctx) (hl : FermionsLast c) (x y : Form) (s s'' : Occ) (hx : WF2 c x) (hy : WF2 c y)
    (hs : Valid c s) :
    ampF' c (mul c x y) s s'' = (List.map (fun t => specAmpS c t s * ampF' c x (tgt t s) s'') y).sum :=
  rep_mul3 c hl x y s s'' hx hy hs

/-- **C08** … as a sum over any finite set of intermediate states containing the targets: composition of kernels -/
theorem C08_product (c : Ctx) (hl : FermionsLast c) (x y : Form) (s s'' : Occ) (hx : WF2 c x) (hy : WF2 c y) (hs : Valid c s)
    (M : Finset Occ) (hM : targets y s ⊆ M) :
    ampF' c (mul c x y) s s'' = ∑ m ∈ M, ampF' c y s m * ampF' c x m s'' :=
  kernel_comp c hl x y s s'' hx hy hs M hM

/-- **C08** multiplication is associative (as operators) -/
theorem C08_associative (c : Ctx) (hl : FermionsLast c) (x y z : Form) (s s'' : Occ) (hx : WF2 c x) (hy : WF2 c y)
    (hz : WF2 c z) (hs : Valid c s) :
    ampF' c (mul c (mul c x y) z) s s'' = ampF' c (mul c x (mul c y z)) s s'' :=
  rep_mul_assoc c hl x y z s s'' hx hy hz hs

/-- **C08** left and right distributivity -/
theorem C08_distributive (c : Ctx) (hl : FermionsLast c) (x y z : Form) (s s'' : Occ) (hx : WF2 c x) (hy : WF2 c y)
    (hz : WF2 c z) (hs : Valid c s) :
    ampF' c (mul c x (add y z)) s s'' = ampF' c (mul c x y) s s'' + ampF' c (mul c x z) s s'' ∧
    ampF' c (mul c (add x y) z) s s'' = ampF' c (mul c x z) s s'' + ampF' c (mul c y z) s s'' :=
  ⟨rep_mul_add c hl x y z s s'' hx hy hz hs, rep_add_mul c hl x y z s s'' hx hy hz hs⟩

/-- **C08** sums, negation, units, integer powers -/
theorem C08_sum (c : Ctx) (x y : Form) (s s' : Occ) : ampF' c (add x y) s s' = ampF' c x s s' + ampF' c y s s' :=
  rep_add c x y s s'
theorem C08_neg (c : Ctx) (x : Form) (s s' : Occ) : ampF' c (neg x) s s' = -ampF' c x s s' := rep_neg c x s s'
theorem C08_unit (c : Ctx) (hl : FermionsLast c) (x : Form) (s s'' : Occ) (hx : WF2 c x) (hs : Valid c s) :
    ampF' c (mul c x (scalar c 1)) s s'' = ampF' c x s s'' ∧ ampF' c (mul c (scalar c 1) x) s s'' = ampF' c x s s'' :=
  ⟨rep_mul_one c hl x s s'' hx hs, rep_one_mul c hl x s s'' hx hs⟩
theorem C08_power (c : Ctx) (hl : FermionsLast c) (x : Form) (k : ℕ) (s s'' : Occ) (hx : WF2 c x) (hs : Valid c s) :
    ampF' c (npow c x (k + 1)) s s'' = ampF' c (mul c (npow c x k) x) s s'' :=
  rep_npow_succ c hl x k s s'' hx hs

/-- **C08** the adjoint is the Hermitian adjoint w.r.t. the weighted form `‖s‖² = Π_bosons s_j!` of the unnormalised basis -/
theorem C08_adjoint (c : Ctx) (x : Form) (s s'' : Occ) (hs : Phys c s) (hs'' : Phys c s'') :
    ampF' c (adjoint x) s'' s * ofInt (norm c s) = (ampF' c x s s'').conj * ofInt (norm c s'') :=
  rep_adjoint c x s s'' hs hs''

/-- **C08** the adjoint reverses products -/
theorem C08_adjoint_reverses_products (c : Ctx) (hl : FermionsLast c) (x y : Form) (s s'' : Occ) (hx : WF2 c x) (hy : WF2 c y)
    (hs : Phys c s) (hs'' : Phys c s'') :
    ampF' c (adjoint (mul c x y)) s'' s = ampF' c (mul c (adjoint y) (adjoint x)) s'' s :=
  adjoint_mul c hl x y s s'' hx hy hs hs''

/-- **C08** conversion: the form obtained from an operator expression has the kernel of the expression's own Fock action
(composition of the generator actions, no normal ordering involved); expressions include arbitrary functions of the number operators -/
theorem C08_from_expr_roundtrip (c : Ctx) (hl : FermionsLast c) (e : OpExpr) (he : OpExpr.wf c e = true) (s s'' : Occ)
    (hs : Valid c s) : ampF' c (fromExpr c e) s s'' = ker (actE c e s) s'' :=
  roundtrip c hl e he s s'' hs

/-- the representation invariant is preserved by every operation, so the hypotheses above are met by everything arithmetic produces -/
theorem C08_invariant_mul (c : Ctx) (hl : FermionsLast c) (x y : Form) (hx : WF2 c x) (hy : WF2 c y) : WF2 c (mul c x y) :=
  wf2_mul c hl x y hx hy
theorem C08_invariant_add (c : Ctx) (x y : Form) (hx : WF2 c x) (hy : WF2 c y) : WF2 c (add x y) := wf2_add c x y hx hy
theorem C08_invariant_adjoint (c : Ctx) (x : Form) (hx : WF2 c x) : WF2 c (adjoint x) := wf2_adjoint c x hx
theorem C08_invariant_npow (c : Ctx) (hl : FermionsLast c) (x : Form) (hx : WF2 c x) (k : ℕ) : WF2 c (npow c x k) :=
  wf2_npow c hl x hx k

/-- the executable closed-form action the driver prints is the specification used above -/
theorem C08_driver_action (c : Ctx) (t : Term) (s : Occ) : specX c t s = (tgt t s, specAmpS c t s) := specX_eq c t s

/-! non-vacuity: `N_a · N_f` written with generators on boson ⊗ fermion, evaluated on `|2,1)` -/
example : ampF' c2 (fromExpr c2 e0) [2, 1] [2, 1] = ker (actE c2 e0 [2, 1]) [2, 1] :=
  C08_from_expr_roundtrip c2 c2_last e0 rfl _ _ c2_valid
example : ker (actE c2 e0 [2, 1]) [2, 1] = ofInt 2 := by decide +kernel

/-! functions of number operators are expressions too (`OpExpr.fn`): `a · 2^N` on boson ⊗ fermion sends `|2,1)` to `2·2^2 |1,1)` — the shifted function
`2^(N+1)·a` of the number-ordered form, not `2^N·a` (defect D29 of the real `from_expr`) -/
def pow2N : Occ → GRat := fun N => ofInt (2 ^ (Occ.get N 0).toNat)
example : ampF' c2 (fromExpr c2 (.mul (.gen 0 false) (.fn pow2N))) [2, 1] [1, 1] = ker (actE c2 (.mul (.gen 0 false) (.fn pow2N)) [2, 1]) [1, 1] :=
  C08_from_expr_roundtrip c2 c2_last _ rfl _ _ c2_valid
example : ker (actE c2 (.mul (.gen 0 false) (.fn pow2N)) [2, 1]) [1, 1] = ofInt 8 := by decide +kernel

end Props
end Pyma
