/-
Property C06 — implicit (incomplete eigenvectors) mode equals the explicit computation.  PARTIAL.

Proved (Hermitian algorithm `main`): `C06_implicit` — let `E` be a block-compatible isometry (`E†E = 1`; concretely `1_A ⊕ Ψ_B`, the columns of `Ψ_B` spanning the
implicit subspace in the ambient space) and let `env'` be ANY environment meeting the specification `ImplicitSpec`: its inputs are the embedded explicit inputs
`E·X·E†`; on off-diagonal block pairs its solver returns *some* solution of the projected Sylvester equation that lies in the range of the projector `E·E†` — no
formula for the solver is assumed, which is exactly what `direct_greens_function` delivers (C16) —; on diagonal blocks (reached only for fully diagonalised,
hence explicit, blocks) solver and masks commute with the embedding.  Then every series of `main` other than `U`, `U†` has, at every block and every order, the
embedded value of the explicit run: `mat' x idx = E · mat x idx · E†`.  (`U`, `U†` start with the `one` sentinel on diagonal blocks, which has no counterpart in the
implicit carrier; they agree modulo the projector — covered by `U'`, `U'†` being in the theorem.)
Key lemma `C06_embedded_solution_unique`: a solution of the projected equation in the range of the projector, supported on the block pair, IS the embedding of the
explicit solution (pull back with `E†·E`, entrywise uniqueness for separated energies).  `C06_spec_consistent`: the specification is met by the explicit
environment itself with `E = 1`.
`C06_ambient_solution_meets_spec` + C16's `C16_direct_greens_function`, `C16_direct_right/left_implicit`: the equation and range clauses of the solver part of
the specification follow from the contract of `direct_greens_function` (the code solves with the ambient `H_0`, never with the projected one).
Not proved: that an *executable* model of the whole implicit environment (ComplementProjector products for the inputs, the support clause, LU solves) meets `ImplicitSpec`; the non-Hermitian
algorithm; KPM.  These rest on the correspondence `harness/implicit_corr.py` (implicit vs explicit real runs: Hermitian and non-Hermitian, arbitrary vector order,
degenerate levels, direct solver and KPM with/without auxiliary vectors, all blocks incl. both orientations of the implicit one).
-/
import PymaVerif.Proofs.Implicit
import PymaVerif.Proofs.Isometry

namespace Pyma
namespace Props
open Dsl Generated BlockDiag BlockDiag.Problem

variable {K : Type} [Field K] [StarRing K] [DecidableEq K] [Thresholds K]
attribute [local instance] Scalar.ofField

/-- **C06** implicit = explicit, embedded: every series of `main` except `U`, `U†`, every block, every order -/
theorem C06_implicit (p : Problem K) {B' : Blocks} {E : Matrix (Fin B'.d) (Fin p.blocks.d) K}
    (hgt : ∀ (x : K) (t : ℚ), Thresholds.absGt x t = true → x ≠ 0) (hwf : p.WF) (hns : p.NoShared) (env' : Env K) (S' : EnvSem B' env')
    (hspec : p.ImplicitSpec E hwf env' S') (hok : EnvOK B' env') (htot : EnvTot mainCert env') (x : String) (hx : x ∈ mainCertNoU.names)
    (idx : Idx) :
    mat B' main env' x idx = isoM E (mat p.blocks main p.env x idx) :=
  Problem.C06_implicit p hgt hwf hns env' S' hspec hok htot x hx idx

example : "H_tilde" ∈ mainCertNoU.names ∧ "U'" ∈ mainCertNoU.names ∧ "U'†" ∈ mainCertNoU.names ∧ "V" ∈ mainCertNoU.names ∧
    "U" ∉ mainCertNoU.names ∧ mainCertNoU.names.length + 2 = mainNames.length := by decide

/-- **C06** a solution of the projected Sylvester equation in the range of the projector is the embedded explicit solution -/
theorem C06_embedded_solution_unique {B B' : Blocks} {E : Matrix (Fin B'.d) (Fin B.d) K} (hE : Isometry E) (en : Fin B.d → K) (i j : ℕ)
    (hsep : ∀ a b : Fin B.d, B.blk a.val = i → B.blk b.val = j → en a ≠ en b) (Y V : MatK K B) (hV : SuppM B i j V)
    (hVeq : Matrix.diagonal en * V - V * Matrix.diagonal en = Y) (V' : MatK K B') (hrange : proj E * V' * proj E = V')
    (hV' : SuppM B' i j V') (hV'eq : isoM E (Matrix.diagonal en) * V' - V' * isoM E (Matrix.diagonal en) = isoM E Y) :
    V' = isoM E V :=
  sylvester_embedded_unique hE en i j hsep Y V hV hVeq V' hrange hV' hV'eq

/-- **C06** what the direct solver delivers is what the specification asks: the code solves with the *ambient* `H_0` (it never forms the projected one); since that
commutes with the projector and compresses to the embedded `H_0`, an ambient solution in the range of the projector solves the projected Sylvester equation of
`ImplicitSpec.solver_off`. -/
theorem C06_ambient_solution_meets_spec {B B' : Blocks} {E : Matrix (Fin B'.d) (Fin B.d) K} (hE : Isometry E) (A' V' Y' H0' : MatK K B')
    (hcomm : proj E * A' = A' * proj E) (hcomp : proj E * A' * proj E = H0') (hrange : proj E * V' * proj E = V')
    (hamb : A' * V' - V' * A' = Y') : H0' * V' - V' * H0' = Y' :=
  ambient_to_projected hE A' V' Y' H0' hcomm hcomp hrange hamb

/-- non-vacuity: the explicit environment meets the specification with the identity embedding -/
theorem C06_spec_consistent (p : Problem K) (hgt : ∀ (x : K) (t : ℚ), Thresholds.absGt x t = true → x ≠ 0) (hwf : p.WF)
    (hsep : ∀ i j : ℕ, i ≠ j → ∀ a b : Fin p.d, p.blk a.val = i → p.blk b.val = j →
      Thresholds.absGt (p.energy a.val - p.energy b.val) p.atol = true) :
    p.ImplicitSpec 1 hwf p.env (p.envSem hwf) :=
  Problem.implicitSpec_refl p hgt hwf hsep

end Props
end Pyma
