/-
Property C09 — compiling a series mini-language algorithm preserves its meaning.

Chain of obligations ((a) and the certificates of (f) are re-checked by kernel evaluation against data REGENERATED from the current source on every run):
  (a) `C09_translated_*`: `Generated.main` / `Generated.nonhermitian` are the programs `tools/translate.py` reads from `pymablock/algorithms.py`;
      the compiled `series_eval` bodies that the real `_parse_algorithm` produces for them (`Generated.compiled_*`, dumped by
      `tools/dump_compiled.py`) are exactly what the reference compiler `Dsl.compileProg` (a model of the with-block, Hermitian-fill, sum,
      divide, function and literal transformers) emits — so a change of the compiler that alters a shipped body, or of a shipped algorithm,
      breaks an obligation here;
  (b) `C09_compile_sound`: whatever a compiled body returns — run with any lookup whose answers are the denotations of the program — is the
      one-step semantics `bodySem` of the source clauses (flattening, re-association and sign pushing of sums disappear into ring laws);
  (c) `C09_evaluator_sound/complete`, `C09_deterministic`: the executable evaluator (what the driver runs in the correspondence) returns
      exactly the values of the relational reference semantics `Den` — the "direct, unoptimised interpretation";
  (d) deletion of once-used terms, request order, faults: Machine theorems of C10/C11 (for ALL eval functions);
  (e) Hermiticity shortcuts: C18 (`C18_hermitian_shortcut`) and the fill lemmas inside C01/C02; two-block and commuting-block flags: C01–C03 hold
      for both flag settings and the solution is unique (C03), so the flags cannot change a value;
  (f) `C09_well_founded_total`: every program that passes the decidable certificate `Cert.ok` (ranks for same-order references) has a value for
      every element in every environment with total primitives — "well-founded" made precise; both shipped programs are certified by `decide`.
For arbitrary user programs there is no per-program proof: `harness/prog_corr.py` compiles hand-written programs covering every feature of the grammar
with the real `series_computation` and compares with the direct interpretation of their source text.  Linear-operator mode: correspondence (C06).
-/
import PymaVerif.Proofs.CompiledOk
import PymaVerif.Proofs.CompileEval
import PymaVerif.Proofs.DslSound
import PymaVerif.Proofs.DslDet
import PymaVerif.Proofs.Total
import PymaVerif.Proofs.MainTotal

namespace Pyma
namespace Props
open Dsl Generated

/-- **C09 (a)** the real compiler's output for the shipped programs is the reference compiler's output (regenerated data, kernel-checked) -/
theorem C09_translated_main : compileProg main = compiled_main := compiled_main_ok
theorem C09_translated_nonhermitian : compileProg nonhermitian = compiled_nonhermitian := compiled_nonhermitian_ok

section
variable {K : Type} [Field K] [StarRing K] [DecidableEq K] [Thresholds K]
attribute [local instance] Scalar.ofField

/-- **C09 (b)** compiled bodies compute the clause semantics of their source -/
theorem C09_compile_sound {B : Blocks} {p : Prog} {env : Env K} (S : EnvSem B env) (hok : EnvOK B env) (lookup : Lookup K)
    (hl : LookupSem B p env lookup) (idx : Idx) (self : String) (body : List Stmt) (hres : ∀ st ∈ body, st.noReserved = true)
    (acc : SVal K) (c : Cache K) (v : SVal K) (c' : Cache K) (hacc : Supp B idx acc)
    (hrun : evalCStmts env lookup idx (List.flatMap (compileStmt self) body) acc c = .ok (v, c')) :
    Supp B idx v ∧ sem B idx v = bodySem S p self idx body (sem B idx acc) :=
  compile_sound S hok lookup hl idx self body hres acc c v c' hacc hrun
end

section
variable {K : Type} [Scalar K]

/-- **C09 (c)** the evaluator is sound for the reference semantics, from any sound memo table, with any fuel … -/
theorem C09_evaluator_sound (p : Prog) (env : Env K) (fuel : Nat) : LookupSound p env (getElem p env fuel) :=
  getElem_sound p env fuel

/-- … complete: every derivable value is found with enough fuel … -/
theorem C09_evaluator_complete {p : Prog} {env : Env K} {x : String} {idx : Idx} {v : SVal K} (h : Den p env x idx v) :
    ∃ fuel c', getElem p env fuel x idx ∅ = .ok (v, c') :=
  getElem_complete h

/-- … and the reference semantics assigns at most one value -/
theorem C09_deterministic {p : Prog} {env : Env K} {j : J K} {v w : SVal K} (hv : Holds p env j v) (hw : Holds p env j w) : v = w :=
  Holds.det hv w hw

/-- **C09 (f)** certified (well-founded) programs are total -/
theorem C09_well_founded_total {p : Prog} {env : Env K} {c : Cert} (hc : c.ok p = true) (henv : EnvTot c env) (t : Nat) (x : String)
    (hx : x ∈ c.names) (idx : Idx) (hd : deg idx.n = t) : Goal p env c x idx :=
  Dsl.total hc henv t x hx idx hd
end

/-- both shipped programs pass the certificate (kernel-checked on the regenerated data) -/
theorem C09_shipped_programs_certified : mainCert.ok main = true ∧ nhCert.ok nonhermitian = true :=
  ⟨mainCert_ok, nhCert_ok⟩

end Props
end Pyma
