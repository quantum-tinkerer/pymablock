/-
Property C16 — Sylvester and Green's-function solvers return solutions of their equations.

  * `C16_diagonal`: the model of `solve_sylvester_diagonal` (`Problem.solveSem`, exact arithmetic; the dense, sparse and symbolic branches are
    the same rule, tied by `harness/solver_corr.py` and the carrier variants of `harness/bd_corr.py`) satisfies `H_0 V − V H_0 = Y` on every entry of
    the block pair whose energies differ by more than `atol`, and vanishes elsewhere.
  * `C16_direct_greens_function`: linear algebra over any field with involution.  `A = E − H`, right / left kernel bases `K`, `L` with
    `L†K = 1`, `P = 1 − K L†`, a pivot set `piv` on which the left kernel is injective (`w` supported on `piv` with `L†w = 0` is zero), `Ã` = `A`
    with the rows in `piv` replaced by unit rows: if `Ã z = (P v)` with the `piv` entries zeroed, then `x = P z` solves `A x = P v` and lies in the
    range of `P`.  The theorem holds for ANY admissible pivot set; SciPy's pivoted QR is trusted to return one (tested).  This is the statement the
    repaired code implements (defect D10: equations dropped where the *left* kernel has full rank).
  * `C16_direct_right_implicit`, `C16_direct_left_implicit`: the row-wise (column-wise) constrained solves of `solve_sylvester_direct`, one per explicit
    level, assemble to a solution of the Sylvester equation with the ambient `H_0` on the implicit side that lies in the range of the projector.
  * `C16_second_quantized`: the model of `solve_scalar` (with `_cancel_binary_operator_numbers`) satisfies `H_ii·X − X·H_jj = Y` as kernels on
    occupation states wherever the denominators do not vanish — an operator identity, corollary of the product theorem of C08.
  * `C16_kpm_accuracy_or_warning`: control flow of `kpm.greens_function`: it terminates, returns a solution whose residue is within the requested accuracy, or
    issues the convergence warning (then the accuracy was not reached).  Chebyshev/Jackson convergence itself is numerical and not modelled:
    `resid` is a parameter; `harness/kpm_corr.py` feeds the model the recomputed residues and checks the defining equation on the real output.
  * sparse LU / MUMPS, grouping of close energies in `solve_sylvester_direct`, projections in the implicit block: correspondence only
    (`harness/implicit_corr.py`: both orientations of the implicit block, degenerate and biorthogonal explicit levels, real/complex).
-/
import PymaVerif.Proofs.BlockDiagSem
import PymaVerif.Proofs.GreensThm
import PymaVerif.Proofs.NofSylvester
import PymaVerif.Proofs.KpmThm

namespace Pyma
namespace Props

section diagonal
open Dsl BlockDiag
variable {K : Type} [Field K] [StarRing K] [DecidableEq K] [Thresholds K]
attribute [local instance] Scalar.ofField

/-- **C16** diagonal solver: `H_0 V − V H_0 = Y` entrywise on the block pair where `|E_a − E_b| > atol`, zero elsewhere -/
theorem C16_diagonal (p : Problem K) (hne : ∀ (x : K) (t : ℚ), Thresholds.absGt x t = true → x ≠ 0)
    (M : MatK K p.blocks) (idx : Idx) (a b : Fin p.d) :
    (p.H0m * p.solveSem M idx - p.solveSem M idx * p.H0m) a b =
      if p.inBlock idx.i idx.j a.val b.val = true ∧ Thresholds.absGt (p.energy a.val - p.energy b.val) p.atol = true then M a b
      else 0 :=
  p.solveSem_sylvester hne M idx a b
end diagonal

section direct
variable {K : Type} [Field K] [StarRing K] {n m : Type} [Fintype n] [Fintype m] [DecidableEq n] [DecidableEq m]

/-- **C16** `direct_greens_function`: the constrained solve returns the solution of `(E − H) x = P v` that lies in the range of `P` -/
theorem C16_direct_greens_function (A : Matrix n n K) (Kv Lv : Matrix n m K) (piv : n → Prop) [DecidablePred piv]
    (hK : A * Kv = 0) (hL : Lv.conjTranspose * A = 0) (hbi : Lv.conjTranspose * Kv = 1)
    (hpiv : ∀ w : n → K, (∀ r, ¬piv r → w r = 0) → Lv.conjTranspose.mulVec w = 0 → w = 0)
    (v z : n → K)
    (hz : (Greens.constrain A piv).mulVec z = fun r => if piv r then 0 else (1 - Kv * Lv.conjTranspose).mulVec v r) :
    A.mulVec ((1 - Kv * Lv.conjTranspose).mulVec z) = (1 - Kv * Lv.conjTranspose).mulVec v ∧
    (1 - Kv * Lv.conjTranspose).mulVec ((1 - Kv * Lv.conjTranspose).mulVec z) = (1 - Kv * Lv.conjTranspose).mulVec z :=
  Greens.direct_solve A Kv Lv piv hK hL hbi hpiv v z hz
omit [StarRing K] in
/-- **C16** the direct solver, right-implicit orientation `(i, B)`: the rows it solves one by one (constrained solves of the transposed problem
for the levels `e a`) assemble to a solution of `E_i V − V H_0 = Y P` that lies in the range of the projector — for any `H_0`, any `P` -/
theorem C16_direct_right_implicit {α : Type} [Fintype α] [DecidableEq α] (H P : Matrix n n K) (e : α → K) (x y : α → n → K)
    (hsolve : ∀ a, (e a • (1 : Matrix n n K) - H.transpose).mulVec (x a) = P.transpose.mulVec (y a))
    (hrange : ∀ a, P.transpose.mulVec (x a) = x a) :
    Matrix.diagonal e * Matrix.of x - Matrix.of x * H = Matrix.of y * P ∧ Matrix.of x * P = Matrix.of x :=
  Greens.rows_assemble hsolve hrange

omit [StarRing K] in
/-- **C16** the direct solver, left-implicit orientation `(B, i)`: the columns assemble to a solution of `H_0 V − V E_i = P Y` in the range -/
theorem C16_direct_left_implicit {α : Type} [Fintype α] [DecidableEq α] (H P : Matrix n n K) (e : α → K) (x y : α → n → K)
    (hsolve : ∀ a, (H - e a • (1 : Matrix n n K)).mulVec (x a) = P.mulVec (y a))
    (hrange : ∀ a, P.mulVec (x a) = x a) :
    H * (Matrix.of x).transpose - (Matrix.of x).transpose * Matrix.diagonal e = P * (Matrix.of y).transpose ∧
      P * (Matrix.of x).transpose = (Matrix.of x).transpose :=
  Greens.cols_assemble hsolve hrange
end direct

section secondquant
open Nof
/-- **C16** second-quantised solver: `H_ii·X − X·H_jj = Y` as operators on occupation states -/
theorem C16_second_quantized (c : Ctx) (hl : FermionsLast c) (hi hj : Occ → GRat) (Y : Form) (hY : WF2 c Y) (s s'' : Occ)
    (hs : Valid c s) (hden : ∀ t ∈ Y, annAmp c t s ≠ 0 → hi (tgt t s) - hj s ≠ 0) :
    ampF' c (mul c (numberForm c hi) (solveScalar c hi hj Y)) s s'' - ampF' c (mul c (solveScalar c hi hj Y) (numberForm c hj)) s s''
      = ampF' c Y s s'' :=
  solveScalar_spec c hl hi hj Y hY s s'' hs hden
end secondquant

section kpm
open Kpm
/-- **C16** KPM: for every `max_moments ≥ 1` the call returns a solution; without warning its residue is within `atol`, with the warning it is
not; the loop terminates (`max_moments` iterations always suffice) -/
theorem C16_kpm_accuracy_or_warning (resid : Nat → Rat) (atol : Rat) (maxM : Nat) (h1 : 1 ≤ maxM) :
    ∃ k, (greens resid atol maxM maxM).moments = some k ∧
      ((greens resid atol maxM maxM).warned = false → resid k ≤ atol) ∧
      ((greens resid atol maxM maxM).warned = true → resid k > atol) :=
  greens_spec resid atol (greens_fuel h1)

example : greens (fun m => 1 / (m : Rat)) (1 / 100) 1000 5 = ⟨some 160, false⟩ := by decide +kernel
end kpm

end Props
end Pyma
