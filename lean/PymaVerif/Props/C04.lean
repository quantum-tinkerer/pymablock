/-
Property C04 — the truncated effective Hamiltonian has the exact spectrum to the requested order.
Stated through power traces: `trS x` is the coefficientwise trace of a series with matrix coefficients.  For every `k`
the power traces `tr (H̃^k)` and `tr (H^k)` agree as series, and the truncation of `H̃` at total degree `N` has the exact
power traces in every coefficient of total degree `≤ N`.  In characteristic zero the power traces `k = 1..d` determine
the characteristic polynomial (Newton's identities), so this is "the characteristic polynomial of `Σ_{|n|≤N} λⁿ H̃_n`
agrees with that of `H(λ)` in all coefficients of total order `≤ N`"; the statements never mention `U`.
`C04_rayleigh_schrodinger`: if state `a` is decoupled from every other state (all `(c,a)`, `c ≠ a`, eliminated — a fully
diagonalised non-degenerate block, or a 1×1 block), then column `a` of `U` is an eigenvector series of `H(λ)` with
eigenvalue series `H̃_aa` — the defining property of the Rayleigh–Schrödinger series.
`C04_characteristic_polynomial`: the literal statement — viewing a series of matrices as a matrix of series (`toMatS`, a ring homomorphism), the characteristic
polynomial of `H̃` equals that of `H(λ)` as polynomials whose coefficients are power series in the parameters: every coefficient agrees at every order
(`U` is a unit with inverse `U†`, and the characteristic polynomial is invariant under conjugation by a unit).
Same subject and quantification as C01.
-/
import PymaVerif.Proofs.Trace
import PymaVerif.Proofs.Witness
import PymaVerif.Proofs.LevelsThm

namespace Pyma
namespace Props
open MvPowerSeries BlockDiag BlockDiag.Problem

variable {K : Type} [Field K] [StarRing K] [DecidableEq K] [Thresholds K] [LawfulThresholds K]
variable {p : Problem K}

/-- **C04** all power traces of `H̃` and of `H` agree, at every order -/
theorem C04_power_traces (h : p.Accepted) (h2 : (2 : K) ≠ 0) (k : ℕ) :
    trS (p.sr "H_tilde" ^ k) = trS (p.sr "H" ^ k) :=
  Problem.C04_traces h h2 k

/-- **C04** without the transitivity clause of `Accepted` (a theorem of the model of the repaired code): the power traces agree also when levels are equal
within `atol` only through a chain of neighbours -/
theorem C04_chains_of_close_levels (h : p.AcceptedCore) (h2 : (2 : K) ≠ 0) (k : ℕ) :
    trS (p.sr "H_tilde" ^ k) = trS (p.sr "H" ^ k) :=
  C04_power_traces h.accepted h2 k

/-- **C04** for every well-formed input with the list form (or the absence) of `fully_diagonalize`, and for masks of the caller that pass the two checks -/
theorem C04_every_list_form_problem (h : p.InputOK) (h2 : (2 : K) ≠ 0) (k : ℕ) : trS (p.sr "H_tilde" ^ k) = trS (p.sr "H" ^ k) :=
  C04_power_traces h.accepted h2 k
theorem C04_every_masked_problem (h : p.MasksOK) (h2 : (2 : K) ≠ 0) (k : ℕ) : trS (p.sr "H_tilde" ^ k) = trS (p.sr "H" ^ k) :=
  C04_power_traces h.accepted h2 k

/-- **C04** the characteristic polynomials of `H̃` and `H(λ)` coincide, coefficient by coefficient and order by order -/
theorem C04_characteristic_polynomial (h : p.Accepted) (h2 : (2 : K) ≠ 0) :
    (toMatS (p.sr "H_tilde")).charpoly = (toMatS (p.sr "H")).charpoly :=
  Problem.C04_charpoly h h2

/-- **C04** truncation at total degree `N` keeps the power traces exact up to degree `N` -/
theorem C04_truncated (h : p.Accepted) (h2 : (2 : K) ≠ 0) (N k : ℕ) (m : Fin p.nparams →₀ ℕ) (hm : m.degree ≤ N) :
    coeff m (trS (truncS N (p.sr "H_tilde") ^ k)) = coeff m (trS (p.sr "H" ^ k)) :=
  Problem.C04_truncated h h2 N k m hm

/-- **C04** Rayleigh–Schrödinger: `H · U e_a = U e_a · H̃_aa` as series, for a decoupled state `a` -/
theorem C04_rayleigh_schrodinger (h : p.Accepted) (h2 : (2 : K) ≠ 0) (a : Fin p.d)
    (ha : ∀ c : Fin p.d, c ≠ a → p.keptE c.val a.val = false) (m : Fin p.nparams →₀ ℕ) (b : Fin p.d) :
    coeff m (p.sr "H" * p.sr "U") b a
      = ∑ q ∈ Finset.antidiagonal m, coeff q.1 (p.sr "U") b a * coeff q.2 (p.sr "H_tilde") a a :=
  Problem.C04_rayleigh_schrodinger h h2 a ha m b

example (k : ℕ) : trS (wd.sr "H_tilde" ^ k) = trS (wd.sr "H" ^ k) := C04_power_traces wd_accepted (by norm_num) k
/-- in `w3` (three 1×1 blocks) every state is decoupled, so the Rayleigh–Schrödinger statement applies to each -/
example : ∀ a c : Fin w3.d, c ≠ a → w3.keptE c.val a.val = false := by decide +kernel

end Props
end Pyma
