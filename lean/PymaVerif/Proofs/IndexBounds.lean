/-
Every source that `select` returns lies inside the array it selects from: it addresses every axis, with a position below the axis length.
Hence the real code's trial array is never indexed out of bounds for an accepted item, `eval` is only ever called with in-range finite
indices and non-negative orders, and a negative finite index has been normalised before any element is requested.

The combination rule is used through its equation `groups_eq`: the range groups of the range entries plus, when there is a list, one
advanced group put in its place by `place`.
-/
import PymaVerif.Proofs.IndexThm
import Mathlib.Data.List.DropRight
import Mathlib.Data.List.Forall2

namespace Pyma
namespace Index

def NAx.idxs : NAx → List Nat
  | .one i => [i]
  | .many l => l
  | .range l => l

theorem normInt_lt {n : Nat} {i : Int} {j : Nat} (h : normInt n i = some j) : j < n := by
  simp only [normInt] at h
  generalize (if i < 0 then i + (n : Int) else i) = k at h
  split at h
  · cases h; omega
  · cases h

theorem mapM_normInt_lt {n : Nat} : ∀ {l : List Int} {js : List Nat}, l.mapM (normInt n) = some js → ∀ j ∈ js, j < n
  | [], js, h => by cases h; nofun
  | x :: xs, js, h => by
      simp only [List.mapM_cons, Option.bind_eq_bind, Option.bind_eq_some_iff, Option.some.injEq, Option.pure_def] at h
      obtain ⟨a, ha, as, has, rfl⟩ := h
      intro j hj
      rcases List.mem_cons.mp hj with rfl | hj
      · exact normInt_lt ha
      · exact mapM_normInt_lt has j hj

theorem clip_le (n : Nat) (x : Int) : clip n x ≤ n := by
  unfold clip
  split
  · split <;> omega
  · exact min_le_right _ _

theorem stepRange_lt {a b st t : Nat} (ht : t ∈ stepRange a b st) : t < b := by
  unfold stepRange at ht
  obtain ⟨u, hu, rfl⟩ := List.mem_map.mp ht
  have hu : u < (b - a + st - 1) / st := List.mem_range.mp hu
  by_cases hst : st = 0
  · subst hst; simp at hu
  · have hpos : 0 < st := Nat.pos_of_ne_zero hst
    have h1 : (u + 1) * st ≤ b - a + st - 1 := (Nat.le_div_iff_mul_le hpos).mp hu
    have h2 : (u + 1) * st = u * st + st := Nat.succ_mul u st
    omega

theorem sliceIdx_lt {n : Nat} {a b : Option Int} {st t : Nat} (ht : t ∈ sliceIdx n a b st) : t < n := by
  unfold sliceIdx at ht
  have := stepRange_lt ht
  cases b with
  | none => simpa using this
  | some bb => exact lt_of_lt_of_le this (clip_le n bb)

theorem normAx_lt {n : Nat} {a : Ax} {x : NAx} (h : normAx n a = .ok x) : ∀ t ∈ x.idxs, t < n := by
  cases a with
  | int i =>
    simp only [normAx] at h
    split at h
    · rename_i j hj
      cases h
      intro t ht
      cases List.mem_singleton.mp ht
      exact normInt_lt hj
    · cases h
  | list l =>
    simp only [normAx] at h
    split at h
    · rename_i js hjs
      cases h
      exact mapM_normInt_lt hjs
    · cases h
  | slice s b st =>
    simp only [normAx] at h
    split at h
    · cases h
    · cases h; exact fun t ht => sliceIdx_lt ht

theorem normAll_lt : ∀ {dims : List Nat} {item : List Ax} {l : List NAx}, normAll dims item = .ok l →
    List.Forall₂ (fun x n => ∀ t ∈ x.idxs, t < n) l dims
  | [], [], l, h => by cases h; exact .nil
  | n :: ns, a :: as, l, h => by
      rw [normAll] at h
      obtain ⟨x, hx, h⟩ := bind_eq_ok.mp h
      obtain ⟨xs, hxs, h⟩ := bind_eq_ok.mp h
      cases h
      exact .cons (normAx_lt hx) (normAll_lt hxs)
  | [], _ :: _, l, h => by cases h
  | _ :: _, [], l, h => by cases h

theorem mem_zipIdx {l : List NAx} {a : NAx} {k : Nat} : (a, k) ∈ l.zipIdx ↔ ∃ hk : k < l.length, l[k] = a :=
  List.mem_zipIdx_iff_getElem?.trans List.getElem?_eq_some_iff

theorem mem_rangeGroup_alts {a : NAx} {k : Nat} {alt : List (Nat × Nat)} :
    alt ∈ (rangeGroup (a, k)).alts ↔ ∃ v ∈ a.idxs, alt = [(k, v)] := by
  cases a <;> simp [rangeGroup, NAx.idxs, eq_comm]

theorem mem_manyLens {lz : List (NAx × Nat)} {js : List Nat} {k : Nat} (h : (NAx.many js, k) ∈ lz) : js.length ∈ manyLens lz :=
  List.mem_filterMap.mpr ⟨(.many js, k), h, rfl⟩

theorem pick_mem {a : NAx} {L j : Nat} (hj : j < L) (hr : a.isRange = false) (hL : ∀ js, a = .many js → js.length = 1 ∨ js.length = L) :
    pick a j ∈ a.idxs := by
  cases a with
  | range js => cases hr
  | one i => exact List.mem_singleton.mpr rfl
  | many js =>
    simp only [pick, NAx.idxs]
    split
    · match js, ‹js.length = 1› with
      | [x], _ => simp
    · have hj' : j < js.length := by rcases hL js rfl with h | h <;> omega
      simp [List.getElem?_eq_getElem hj']

theorem mem_advGroup_alts {L : Nat} {adv : List (NAx × Nat)} {alt : List (Nat × Nat)} :
    alt ∈ (advGroup L adv).alts ↔ ∃ j < L, adv.map (fun p => (p.2, pick p.1 j)) = alt := by
  simp only [advGroup, List.mem_map, List.mem_range]

theorem mem_product {as : List (Nat × Nat)} : ∀ {gs : List Group}, as ∈ product gs →
    (∀ q ∈ as, ∃ g ∈ gs, ∃ alt ∈ g.alts, q ∈ alt) ∧ ∀ g ∈ gs, ∃ alt ∈ g.alts, alt ⊆ as := by
  intro gs
  induction gs generalizing as with
  | nil =>
    intro h
    cases List.mem_singleton.mp h
    exact ⟨nofun, nofun⟩
  | cons g r ih =>
    intro h
    simp only [product, List.mem_flatMap, List.mem_map] at h
    obtain ⟨a, ha, rest, hrest, rfl⟩ := h
    obtain ⟨h1, h2⟩ := ih hrest
    refine ⟨fun q hq => ?_, fun g' hg' => ?_⟩
    · rcases List.mem_append.mp hq with hq | hq
      · exact ⟨g, List.mem_cons_self .., a, ha, hq⟩
      · obtain ⟨g', hg', x⟩ := h1 q hq
        exact ⟨g', List.mem_cons_of_mem _ hg', x⟩
    · rcases List.mem_cons.mp hg' with rfl | hg'
      · exact ⟨a, ha, List.subset_append_left ..⟩
      · obtain ⟨alt, halt, hsub⟩ := h2 g' hg'
        exact ⟨alt, halt, List.subset_append_of_subset_right _ hsub⟩

theorem toSource_spec {l : List NAx} {as : List (Nat × Nat)} (hv : ∀ q ∈ as, ∃ a, (a, q.1) ∈ l.zipIdx ∧ q.2 ∈ a.idxs)
    (hc : ∀ p ∈ l.zipIdx, p.2 ∈ as.map (·.1)) : List.Forall₂ (fun v x => v ∈ x.idxs) (toSource l.length as) l := by
  unfold toSource
  rw [List.forall₂_iff_get]
  refine ⟨by simp, ?_⟩
  intro k hk1 hk2
  simp only [List.get_eq_getElem, List.getElem_map, List.getElem_range]
  obtain ⟨p, hp, hpk⟩ := List.mem_map.mp (hc _ (mem_zipIdx.mpr ⟨hk2, rfl⟩))
  have hsome : (as.find? (fun q => q.1 == k)).isSome := by
    rw [List.find?_isSome]; exact ⟨p, hp, by simp [hpk]⟩
  obtain ⟨q, hq⟩ := Option.isSome_iff_exists.mp hsome
  have hqk : q.1 = k := by have := List.find?_some hq; simpa using this
  obtain ⟨a, ha, hmem⟩ := hv q (List.mem_of_find?_eq_some hq)
  obtain ⟨_, rfl⟩ := mem_zipIdx.mp ha
  simp only [hq, Option.map_some, Option.getD_some]
  simpa [hqk] using hmem

section lists
variable {α : Type} (p : α → Bool)

theorem rtakeWhile_append_of_pos {l t : List α} (h : ∀ x ∈ t, p x) : (l ++ t).rtakeWhile p = l.rtakeWhile p ++ t := by
  simp [List.rtakeWhile, List.takeWhile_append_of_pos (l₁ := t.reverse) (fun x hx => h x (List.mem_reverse.mp hx))]

theorem rdropWhile_append_of_pos {l t : List α} (h : ∀ x ∈ t, p x) : (l ++ t).rdropWhile p = l.rdropWhile p := by
  simp [List.rdropWhile, List.dropWhile_append_of_pos (l₁ := t.reverse) (fun x hx => h x (List.mem_reverse.mp hx))]

theorem take_sub_rtakeWhile (l : List α) : l.take (l.length - (l.rtakeWhile p).length) = l.rdropWhile p := by
  have hl : (l.rdropWhile p).length + (l.rtakeWhile p).length = l.length := by
    rw [← List.length_append, List.rdropWhile_append_rtakeWhile]
  rw [← hl, Nat.add_sub_cancel]
  exact (List.prefix_iff_eq_take.mp (List.rdropWhile_prefix p l)).symm

theorem takeWhile_append_of_stop : ∀ {l : List α} (t : List α), (∃ x ∈ l, p x = false) →
    (l ++ t).takeWhile p = l.takeWhile p ∧ (l ++ t).dropWhile p = l.dropWhile p ++ t
  | [], _, h => by simp at h
  | x :: xs, t, h => by
      cases hx : p x with
      | false => simp [hx]
      | true =>
        have h' : ∃ y ∈ xs, p y = false := by simpa [hx] using h
        simp [hx, takeWhile_append_of_stop t h']

end lists

/-- where the advanced group `g` stands among the range groups of `l`: between the leading and the trailing ranges when the advanced
entries are adjacent, in front otherwise (the last two branches of `groups`, with `rdropWhile`/`rtakeWhile` for its reversals) -/
def place (g : Group) (l : List (NAx × Nat)) : List Group :=
  if ((l.dropWhile (·.1.isRange)).rdropWhile (·.1.isRange)).all (fun p => !p.1.isRange) then
    (l.takeWhile (·.1.isRange)).map rangeGroup ++ [g] ++ ((l.dropWhile (·.1.isRange)).rtakeWhile (·.1.isRange)).map rangeGroup
  else g :: (l.filter (·.1.isRange)).map rangeGroup

theorem groups_eq (l : List (NAx × Nat)) : groups l =
    if l.all (fun p => !p.1.isMany) then .ok (l.map rangeGroup)
    else if (manyLens l).all (fun n => n = 1 ∨ n = bcLen (manyLens l)) then
      .ok (place (advGroup (bcLen (manyLens l)) (l.filter (fun p => !p.1.isRange))) l)
    else .error .index := by
  unfold groups place
  simp only [← take_sub_rtakeWhile, apply_ite Except.ok]
  rfl

theorem place_perm (g : Group) (l : List (NAx × Nat)) : (place g l).Perm (g :: (l.filter (·.1.isRange)).map rangeGroup) := by
  unfold place
  split
  · rename_i hmid
    have hl : l.filter (·.1.isRange) = l.takeWhile (·.1.isRange) ++ (l.dropWhile (·.1.isRange)).rtakeWhile (·.1.isRange) := by
      conv_lhs => rw [← List.takeWhile_append_dropWhile (p := (·.1.isRange)) (l := l),
        ← List.rdropWhile_append_rtakeWhile (p := (·.1.isRange)) (l := l.dropWhile (·.1.isRange))]
      rw [List.filter_append, List.filter_append, List.filter_eq_self.mpr fun _ => List.mem_takeWhile_imp,
        List.filter_eq_self.mpr fun _ => List.mem_rtakeWhile_imp,
        List.filter_eq_nil_iff.mpr fun q hq => by simpa using List.all_eq_true.mp hmid q hq, List.nil_append]
    rw [hl, List.map_append, List.append_assoc]
    exact List.perm_middle
  · exact List.Perm.refl _

theorem manyLens_eq_nil {lz : List (NAx × Nat)} (h : ∀ p ∈ lz, p.1.isMany = false) : manyLens lz = [] :=
  List.filterMap_eq_nil_iff.mpr fun
    | (.many _, _), hp => nomatch h _ hp
    | (.one _, _), _ => rfl
    | (.range _, _), _ => rfl

theorem groups_form {lz : List (NAx × Nat)} {gs : List Group} (h : groups lz = .ok gs) :
    ∃ L, (∀ n ∈ manyLens lz, n = 1 ∨ n = L) ∧
      (∀ g ∈ gs, (∃ p ∈ lz, g = rangeGroup p) ∨ g = advGroup L (lz.filter (fun p => !p.1.isRange))) ∧
      (∀ p ∈ lz, rangeGroup p ∈ gs ∨ (p.1.isRange = false ∧ advGroup L (lz.filter (fun p => !p.1.isRange)) ∈ gs)) := by
  rw [groups_eq] at h
  split at h
  · rename_i hbasic
    cases h
    refine ⟨1, ?_, fun g hg => ?_, fun p hp => Or.inl (List.mem_map_of_mem hp)⟩
    · rw [manyLens_eq_nil fun p hp => by simpa using List.all_eq_true.mp hbasic p hp]
      exact fun _ h => nomatch h
    · obtain ⟨p, hp, rfl⟩ := List.mem_map.mp hg
      exact Or.inl ⟨p, hp, rfl⟩
  · split at h
    · rename_i hbc
      cases h
      have hmem := fun g => (place_perm (advGroup (bcLen (manyLens lz)) (lz.filter fun p => !p.1.isRange)) lz).mem_iff (a := g)
      refine ⟨_, fun n hn => by simpa using List.all_eq_true.mp hbc n hn, fun g hg => ?_, fun p hp => ?_⟩
      · rcases List.mem_cons.mp ((hmem g).mp hg) with rfl | hg
        · exact Or.inr rfl
        · obtain ⟨p, hp, rfl⟩ := List.mem_map.mp hg
          exact Or.inl ⟨p, (List.mem_filter.mp hp).1, rfl⟩
      · cases hr : p.1.isRange with
        | true => exact Or.inl ((hmem _).mpr (List.mem_cons_of_mem _ (List.mem_map_of_mem (List.mem_filter.mpr ⟨hp, hr⟩))))
        | false => exact Or.inr ⟨rfl, (hmem _).mpr (List.mem_cons_self ..)⟩
    · cases h

theorem product_spec {lz : List (NAx × Nat)} {gs : List Group} (h : groups lz = .ok gs) {as : List (Nat × Nat)} (has : as ∈ product gs) :
    (∀ q ∈ as, ∃ a, (a, q.1) ∈ lz ∧ q.2 ∈ a.idxs) ∧ ∀ p ∈ lz, p.2 ∈ as.map (·.1) := by
  obtain ⟨L, hL, hform, hcover⟩ := groups_form h
  obtain ⟨hfrom, halts⟩ := mem_product has
  refine ⟨fun q hq => ?_, fun p hp => ?_⟩
  · obtain ⟨g, hg, alt, halt, hqa⟩ := hfrom q hq
    rcases hform g hg with ⟨⟨a, k⟩, hp, rfl⟩ | rfl
    · obtain ⟨v, hv, rfl⟩ := mem_rangeGroup_alts.mp halt
      cases List.mem_singleton.mp hqa
      exact ⟨a, hp, hv⟩
    · obtain ⟨j, hj, rfl⟩ := mem_advGroup_alts.mp halt
      obtain ⟨⟨a, k⟩, hak, rfl⟩ := List.mem_map.mp hqa
      obtain ⟨hmem, hnr⟩ := List.mem_filter.mp hak
      exact ⟨a, hmem, pick_mem hj (by simpa using hnr) fun js hjs => hL _ (mem_manyLens (hjs ▸ hmem))⟩
  · rcases hcover p hp with hg | ⟨hnr, hg⟩
    · obtain ⟨alt, halt, hsub⟩ := halts _ hg
      obtain ⟨v, _, rfl⟩ := mem_rangeGroup_alts.mp halt
      exact List.mem_map.mpr ⟨_, hsub (List.mem_singleton.mpr rfl), rfl⟩
    · obtain ⟨alt, halt, hsub⟩ := halts _ hg
      obtain ⟨j, _, rfl⟩ := mem_advGroup_alts.mp halt
      exact List.mem_map.mpr ⟨_, hsub (List.mem_map.mpr ⟨p, List.mem_filter.mpr ⟨hp, by simpa using hnr⟩, rfl⟩), rfl⟩

theorem sources_mem {l : List NAx} {gs : List Group} (h : groups l.zipIdx = .ok gs) :
    ∀ as ∈ product gs, List.Forall₂ (fun v x => v ∈ x.idxs) (toSource l.length as) l :=
  fun _ has => toSource_spec (product_spec h has).1 (product_spec h has).2

theorem forall₂_comp {α β γ : Type} {R : α → β → Prop} {S : β → γ → Prop} {T : α → γ → Prop} (h : ∀ a b c, R a b → S b c → T a c) :
    ∀ {l₁ : List α} {l₂ : List β} {l₃ : List γ}, List.Forall₂ R l₁ l₂ → List.Forall₂ S l₂ l₃ → List.Forall₂ T l₁ l₃
  | _, _, _, .nil, .nil => .nil
  | _, _, _, .cons h1 t1, .cons h2 t2 => .cons (h _ _ _ h1 h2) (forall₂_comp h t1 t2)

theorem select_in_bounds {dims : List Nat} {item : List Ax} {r : Result} (h : select dims item = .ok r) :
    ∀ s ∈ r.sources, List.Forall₂ (· < ·) s dims := by
  obtain ⟨l, gs, hl, hgs, rfl⟩ := select_ok h
  intro s hs
  obtain ⟨as, has, rfl⟩ := List.mem_map.mp hs
  exact forall₂_comp (fun v x n hv hx => hx v hv) (sources_mem hgs as has) (normAll_lt hl)

end Index
end Pyma
