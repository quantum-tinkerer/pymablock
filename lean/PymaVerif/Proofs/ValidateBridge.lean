/-
Bridge between the two hand models of `block_diagonalize`: the decision logic of its set-up phase (`Validate.setup`, the subject of C20) and the wiring of the
computation (`BlockDiag.Problem`, the subject of C01–C04).  `configOf p` computes, from a problem with masks given by the caller, the facts that the set-up
phase consults about those masks; if the set-up phase accepts, the two mask clauses that `MasksOK` asks for hold — what the code checks is what the theorems need.
-/
import PymaVerif.Proofs.ValidateThm
import PymaVerif.Proofs.LevelsThm

namespace Pyma
namespace BlockDiag
namespace Problem

variable {K : Type} [Field K] [StarRing K] [DecidableEq K] [Thresholds K]
attribute [local instance] Scalar.ofField
variable (p : Problem K)

/-- the mask of block `b` is symmetric (what `(to_eliminate == to_eliminate.T).all()` tests) -/
def maskSym (b : Nat) : Bool :=
  (List.range p.d).all fun a => (List.range p.d).all fun c => !(p.blk a == b && p.blk c == b) || p.elim a c == p.elim c a

/-- the mask of block `b` selects an entry between levels that are equal within `atol` (what `(to_eliminate & equal_eigs[i]).any()` tests) -/
def maskDeg (b : Nat) : Bool :=
  (List.range p.d).any fun a => (List.range p.d).any fun c => p.blk a == b && p.blk c == b && p.elim a c && p.equalEigs a c

/-- the facts about a Hermitian, numeric, explicitly block-diagonal problem that the set-up phase consults -/
def configOf : Validate.Config where
  hermitian := true
  customSolver := false
  legacySolver := false
  fd := match p.fd with
    | .none => .empty
    | .tuple l => .blocks l
    | .dict l => .dict (l.map fun e => (e.1, true, p.maskSym e.1, p.maskDeg e.1))
  vectors := false
  pairForm := false
  biorthonormal := true
  implicit := false
  blockedInput := false
  symbolicH0 := false
  directSolver := true
  arrayVectors := true
  nblocks := p.nblocks
  off := []
  diagAllZero := false

variable {p}

omit [Field K] [DecidableEq K] [Thresholds K] in
theorem fdEff_dict (hn : p.nblocks ≠ 1) {l : List (Nat × Array Bool)} (hfd : p.fd = .dict l) : p.fdEff = .dict l := by
  unfold fdEff
  rw [hfd]
  cases l with
  | nil => simp [hn]
  | cons _ _ => rfl

theorem mask_of_elim {l : List (Nat × Array Bool)} (hEff : p.fdEff = .dict l) {a b : Nat} (h : p.elim a b = true) : ∃ e ∈ l, p.blk a = e.1 := by
  unfold elim at h
  simp only [hEff] at h
  cases hf : l.find? (·.1 == p.blk a) with
  | none => simp [hf] at h
  | some e => exact ⟨e, List.mem_of_find?_eq_some hf, eq_comm.mp (by simpa using List.find?_some hf)⟩

theorem elim_symm_of_maskSym {b : Nat} (h : p.maskSym b = true) {a c : Nat} (ha : a < p.d) (hc : c < p.d) (hab : p.blk a = b) (hcb : p.blk c = b) :
    p.elim a c = p.elim c a := by
  have := List.all_eq_true.mp (List.all_eq_true.mp h a (List.mem_range.mpr ha)) c (List.mem_range.mpr hc)
  simpa [hab, hcb] using this

theorem equalEigs_of_maskDeg {b : Nat} (h : p.maskDeg b = false) {a c : Nat} (ha : a < p.d) (hc : c < p.d) (hab : p.blk a = b) (hcb : p.blk c = b)
    (hel : p.elim a c = true) : p.equalEigs a c = false := by
  have := List.any_eq_false.mp (eq_false_of_ne_true (List.any_eq_false.mp h a (List.mem_range.mpr ha))) c (List.mem_range.mpr hc)
  simpa [hab, hcb, hel] using this

theorem fdNorm_configOf (hn : p.nblocks ≠ 1) {l : List (Nat × Array Bool)} (hfd : p.fd = .dict l) :
    Validate.fdNorm p.configOf = .dict (l.map fun e => (e.1, true, p.maskSym e.1, p.maskDeg e.1)) := by
  have h1 : (p.configOf.nblocks == 1) = false := by
    show (p.nblocks == 1) = false
    simpa using hn
  unfold Validate.fdNorm
  rw [h1]
  unfold configOf
  simp only [hfd]
  rfl

/-- what the set-up phase checks is what the theorems need: masks of the caller that its model accepts meet the two mask clauses of `MasksOK` -/
theorem masks_ok_of_setup (hn : p.nblocks ≠ 1) {l : List (Nat × Array Bool)} (hfd : p.fd = .dict l)
    (hok : Validate.setup p.configOf = .ok) :
    (∀ a b : Fin p.d, p.blk a.val = p.blk b.val → p.elim a.val b.val = p.elim b.val a.val) ∧
    (∀ a b : Fin p.d, p.blk a.val = p.blk b.val → p.elim a.val b.val = true → p.equalEigs a.val b.val = false) := by
  have hEff := fdEff_dict hn hfd
  obtain ⟨hF, hD⟩ := Validate.masks_of_setup_ok hok
  rw [fdNorm_configOf hn hfd] at hF hD
  have hmask : ∀ e ∈ l, p.maskSym e.1 = true ∧ p.maskDeg e.1 = false := fun e he =>
    ⟨(Validate.maskFault_none hF (List.mem_map.mpr ⟨e, he, rfl⟩)).2,
      by simpa using List.any_eq_false.mp hD _ (List.mem_map.mpr ⟨e, he, rfl⟩)⟩
  have hsym1 : ∀ a b : Fin p.d, p.blk a.val = p.blk b.val → p.elim a.val b.val = true → p.elim b.val a.val = true := by
    intro a b hblk h1
    obtain ⟨e, he, hb⟩ := mask_of_elim hEff h1
    rw [← elim_symm_of_maskSym (hmask e he).1 a.isLt b.isLt hb (hblk ▸ hb)]
    exact h1
  refine ⟨fun a b hblk => Bool.eq_iff_iff.mpr ⟨hsym1 a b hblk, hsym1 b a hblk.symm⟩, fun a b hblk hel => ?_⟩
  obtain ⟨e, he, hb⟩ := mask_of_elim hEff hel
  exact equalEigs_of_maskDeg (hmask e he).2 a.isLt b.isLt hb (hblk ▸ hb) hel

/-- the hypotheses of C01–C04 are met by what the code checks -/
theorem accepted_of_setup [LawfulThresholds K] (hin : p.InputFacts) (hn : p.nblocks ≠ 1) {l : List (Nat × Array Bool)} (hfd : p.fd = .dict l)
    (hok : Validate.setup p.configOf = .ok) : p.Accepted := by
  obtain ⟨h1, h2⟩ := masks_ok_of_setup hn hfd hok
  exact hin.accepted h1 h2

end Problem
end BlockDiag
end Pyma

