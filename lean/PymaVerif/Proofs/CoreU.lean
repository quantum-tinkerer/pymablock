/-
Theorem U: uniqueness of the least-action solution, and transport of solutions along symmetries.

Uniqueness is proved once, for the non-Hermitian problem: a pair `(P, G)` with `(1+G)(1+P) = 1`,
elimination and the gauge `Sel (P − G) = 0` is unique.  With `G = P†` this is the Hermitian statement,
and it gives "on Hermitian input the non-Hermitian mode returns the Hermitian result".
-/
import PymaVerif.Proofs.Filtered

namespace Pyma

namespace TheoremU
variable {S : Type*} [Ring S] [StarRing S]

structure Ctx (S : Type*) [Ring S] [StarRing S] where
  Φ : Filtration S
  two_mem : ∀ k (x : S), 2 * x ∈ Φ.F k → x ∈ Φ.F k
  star_mem : ∀ k (x : S), x ∈ Φ.F k → star x ∈ Φ.F k
  Sel : S →+ S
  Sel_mem : ∀ k (x : S), x ∈ Φ.F k → Sel x ∈ Φ.F k
  H0 : S
  H' : S
  H'mem : H' ∈ Φ.F 1
  H0comm : ∀ x, Sel (H0 * x - x * H0) = H0 * Sel x - Sel x * H0
  inj : ∀ k (x : S), Sel x = 0 → H0 * x - x * H0 ∈ Φ.F k → x ∈ Φ.F k

structure Sol (c : Ctx S) (P : S) : Prop where
  mem : P ∈ c.Φ.F 1
  unit : (1 + star P) * (1 + P) = 1
  gauge : c.Sel (P - star P) = 0
  elim : (1 + star P) * (c.H0 + c.H') * (1 + P)
           - c.Sel ((1 + star P) * (c.H0 + c.H') * (1 + P)) = 0

end TheoremU

namespace TheoremUN
open TheoremU
variable {S : Type*} [Ring S] [StarRing S]

structure SolN (c : Ctx S) (P G : S) : Prop where
  memP : P ∈ c.Φ.F 1
  memG : G ∈ c.Φ.F 1
  inv : (1 + G) * (1 + P) = 1
  gauge : c.Sel (P - G) = 0
  elim : (1 + G) * (c.H0 + c.H') * (1 + P) - c.Sel ((1 + G) * (c.H0 + c.H') * (1 + P)) = 0

/-- Induction on the order `k` of `δ = P₁ − P₂`, `γ = G₁ − G₂`: the sum `δ + γ` is pushed up by the
inverse equation, the difference `δ − γ` (which has no kept part) by the elimination equation and the
injectivity of `[H0, ·]` on eliminated elements. -/
theorem SolN.unique (c : Ctx S) {P₁ P₂ G₁ G₂ : S} (h₁ : SolN c P₁ G₁) (h₂ : SolN c P₂ G₂) :
    P₁ = P₂ ∧ G₁ = G₂ := by
  have key : ∀ k, P₁ - P₂ ∈ c.Φ.F (k+1) ∧ G₁ - G₂ ∈ c.Φ.F (k+1) := by
    intro k
    induction k with
    | zero => exact ⟨sub_mem h₁.memP h₂.memP, sub_mem h₁.memG h₂.memG⟩
    | succ k ih =>
    obtain ⟨hδ, hγ⟩ := ih
    -- the two differences of products, split at the factors
    have hinv := mul_sub_mul (1 + G₁) (1 + P₁) (1 + G₂) (1 + P₂)
    have hdec := mul_sub_mul (1 + G₁) ((c.H0 + c.H') * (1 + P₁)) (1 + G₂) ((c.H0 + c.H') * (1 + P₂))
    rw [← mul_sub, add_sub_add_left_eq_sub, add_sub_add_left_eq_sub, ← mul_assoc, ← mul_assoc] at hdec
    rw [h₁.inv, h₂.inv, sub_self, add_sub_add_left_eq_sub, add_sub_add_left_eq_sub] at hinv
    have hE : ∀ {P G}, SolN c P G → c.Sel ((1 + G) * (c.H0 + c.H') * (1 + P)) = (1 + G) * (c.H0 + c.H') * (1 + P) :=
      fun s => (sub_eq_zero.mp s.elim).symm
    have hD := congrArg₂ (· - ·) (hE h₁) (hE h₂)
    simp only [← map_sub] at hD
    have hν : c.Sel ((P₁ - P₂) - (G₁ - G₂)) = 0 := by
      rw [sub_sub_sub_comm, map_sub, h₁.gauge, h₂.gauge, sub_self]
    generalize (1 + G₁) * (c.H0 + c.H') * (1 + P₁) - (1 + G₂) * (c.H0 + c.H') * (1 + P₂) = D at hdec hD
    generalize P₁ - P₂ = δ at *
    generalize G₁ - G₂ = γ at *
    have hη : δ + γ ∈ c.Φ.F (k+1+1) := by
      have : δ + γ = -(γ * P₁ + G₂ * δ) := by
        apply eq_neg_of_add_eq_zero_left
        rw [hinv, mul_add, add_mul, mul_one, one_mul]; abel
      rw [this]
      exact neg_mem (add_mem (c.Φ.mul_right_mem hγ h₁.memP) (c.Φ.mul_left_mem h₂.memG hδ))
    -- `D = γ H0 + H0 δ + rest`
    have hrest : γ * (c.H' + (c.H0 + c.H') * P₁) + (c.H' + G₂ * (c.H0 + c.H')) * δ ∈ c.Φ.F (k+1+1) :=
      add_mem (c.Φ.mul_right_mem hγ (add_mem c.H'mem (c.Φ.mul_any_left h₁.memP)))
        (c.Φ.mul_left_mem (add_mem c.H'mem (c.Φ.mul_any_right h₂.memG)) hδ)
    generalize hr : γ * (c.H' + (c.H0 + c.H') * P₁) + (c.H' + G₂ * (c.H0 + c.H')) * δ = rest at hrest
    -- twice that, sorted into the parts of `δ + γ` and `δ − γ`
    have h2 : 2 * D = ((δ + γ) * c.H0 + c.H0 * (δ + γ) + 2 * rest) + (c.H0 * (δ - γ) - (δ - γ) * c.H0) := by
      rw [hdec, ← hr]; simp only [two_mul, mul_add, add_mul, mul_sub, sub_mul, mul_one, one_mul, mul_assoc]; abel
    have hjunk : (δ + γ) * c.H0 + c.H0 * (δ + γ) + 2 * rest ∈ c.Φ.F (k+1+1) :=
      add_mem (add_mem (c.Φ.mul_any_right hη) (c.Φ.mul_any_left hη)) (c.Φ.mul_any_left hrest)
    generalize (δ + γ) * c.H0 + c.H0 * (δ + γ) + 2 * rest = junk at h2 hjunk
    -- the eliminated part of `2 D` vanishes, so the commutator is `Sel junk − junk`
    have hcomm : c.H0 * (δ - γ) - (δ - γ) * c.H0 ∈ c.Φ.F (k+1+1) := by
      have s : c.Sel (2 * D) = 2 * D := by rw [two_mul, map_add, hD]
      rw [h2, map_add, c.H0comm, hν, mul_zero, zero_mul, sub_zero, add_zero] at s
      rw [eq_sub_of_add_eq' s.symm]
      exact sub_mem (c.Sel_mem _ _ hjunk) hjunk
    have hνmem := c.inj _ _ hν hcomm
    have hδ' : δ ∈ c.Φ.F (k+1+1) := by
      apply c.two_mem
      have : 2 * δ = (δ + γ) + (δ - γ) := by rw [two_mul]; abel
      rw [this]; exact add_mem hη hνmem
    refine ⟨hδ', ?_⟩
    rw [← add_sub_cancel_left δ γ]
    exact sub_mem hη hδ'
  have hz : ∀ x : S, (∀ k, x ∈ c.Φ.F (k+1)) → x = 0 := fun x hx =>
    c.Φ.eq_zero_of_contract fun k _ => hx k
  exact ⟨sub_eq_zero.mp (hz _ fun k => (key k).1), sub_eq_zero.mp (hz _ fun k => (key k).2)⟩

variable (c : Ctx S) (SS : ∀ x, c.Sel (c.Sel x) = c.Sel x) {P₁ P₂ G₁ G₂ : S}

include SS in
/-- the form in which C05 cites it; idempotence of `Sel` is not used -/
theorem unique (h₁ : SolN c P₁ G₁) (h₂ : SolN c P₂ G₂) : P₁ = P₂ ∧ G₁ = G₂ := h₁.unique c h₂

theorem Sol.toSolN {c : Ctx S} {P : S} (h : Sol c P) : SolN c P (star P) :=
  ⟨h.mem, c.star_mem _ _ h.mem, h.unit, h.gauge, h.elim⟩

end TheoremUN

namespace TheoremU
variable {S : Type*} [Ring S] [StarRing S]

variable (c : Ctx S) {P₁ P₂ : S}

theorem unique (h₁ : Sol c P₁) (h₂ : Sol c P₂) : P₁ = P₂ :=
  ((TheoremUN.Sol.toSolN h₁).unique c (TheoremUN.Sol.toSolN h₂)).1

structure Hom {S' : Type*} [Ring S'] [StarRing S'] (c : Ctx S) (c' : Ctx S') (T : S →+* S') (z : S') : Prop where
  star : ∀ x, T (star x) = star (T x)
  mem : ∀ k x, x ∈ c.Φ.F k → T x ∈ c'.Φ.F k
  sel : ∀ x, T (c.Sel x) = c'.Sel (T x)
  ham : T (c.H0 + c.H') = c'.H0 + c'.H' + z
  central : ∀ y, z * y = y * z
  zsel : c'.Sel z = z

theorem Sol.map {S' : Type*} [Ring S'] [StarRing S'] {c : Ctx S} {c' : Ctx S'} {T : S →+* S'} {z : S'}
    (hT : Hom c c' T z) {P : S} (h : Sol c P) : Sol c' (T P) := by
  have hunit : (1 + star (T P)) * (1 + T P) = 1 := by
    have := congrArg T h.unit
    rwa [map_mul, map_add, map_add, map_one, hT.star] at this
  refine ⟨hT.mem _ _ h.mem, hunit, ?_, ?_⟩
  · have := congrArg T h.gauge
    rwa [hT.sel, map_sub, hT.star, map_zero] at this
  · -- `T` maps the transformed Hamiltonian to the transformed Hamiltonian plus `z`
    have hTE : T ((1 + star P) * (c.H0 + c.H') * (1 + P))
        = (1 + star (T P)) * (c'.H0 + c'.H') * (1 + T P) + z := by
      rw [map_mul, map_mul, hT.ham, map_add, map_add, map_one, hT.star, mul_add (1 + star (T P)), add_mul,
        mul_assoc _ z, hT.central, ← mul_assoc _ _ z, hunit, one_mul]
    have := congrArg T h.elim
    rwa [map_sub, map_zero, hT.sel, hTE, map_add, hT.zsel, add_sub_add_right_eq_sub] at this

theorem transport {S' : Type*} [Ring S'] [StarRing S'] {c : Ctx S} (c' : Ctx S') {T : S →+* S'} {z : S'}
    (hT : Hom c c' T z) {P : S} {P' : S'} (h : Sol c P) (h' : Sol c' P') : T P = P' :=
  unique c' (h.map hT) h'

end TheoremU

end Pyma
#print axioms Pyma.TheoremU.unique
#print axioms Pyma.TheoremU.transport
#print axioms Pyma.TheoremUN.unique
