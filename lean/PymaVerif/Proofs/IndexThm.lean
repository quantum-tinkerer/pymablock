/-
The resolution of `BlockSeries.__getitem__` through a trial array (`Model/Index.lean`) is NumPy's selection.  `_check_finite` accepts exactly
the items whose entries on the infinite dimensions are bounded and non-negative (`AxOk`); for those the trial array is large enough: the
selection on the trial shape is the selection on every larger array (`select_trunc`), so the series returns what NumPy returns on the dense
array of any sufficiently large truncation.  The positions that get evaluated are the selected sources, each once, in lexicographic order.
-/
import PymaVerif.Model.Index
import PymaVerif.Proofs.InsertNew
import Mathlib.Data.List.Lex
import Mathlib.Data.Int.Order.Basic

namespace Pyma
namespace Index

theorem bind_eq_ok {ε α β : Type} {x : Except ε α} {f : α → Except ε β} {b : β} :
    x >>= f = .ok b ↔ ∃ a, x = .ok a ∧ f a = .ok b := by
  cases x <;> simp [bind, Except.bind]

theorem select_ok {dims : List Nat} {item : List Ax} {r : Result} (h : select dims item = .ok r) :
    ∃ l gs, normAll dims item = .ok l ∧ groups l.zipIdx = .ok gs ∧
      r = ⟨(gs.filter (·.dim)).map (·.alts.length), (product gs).map (toSource l.length)⟩ := by
  obtain ⟨l, hl, h⟩ := bind_eq_ok.mp h
  obtain ⟨gs, hgs, h⟩ := bind_eq_ok.mp h
  exact ⟨l, gs, hl, hgs, (Except.ok.inj h).symm⟩

/-- an entry of the infinite dimensions that `_check_finite` lets through -/
def AxOk : Ax → Prop
  | .int i => 0 ≤ i
  | .list l => ∀ i ∈ l, (0 : Int) ≤ i
  | .slice a b _ => b.isSome = true ∧ (∀ x, a = some x → 0 ≤ x) ∧ (∀ x, b = some x → 0 ≤ x)

theorem negBound_false_iff (o : Option Int) : negBound o = false ↔ ∀ x, o = some x → 0 ≤ x := by
  cases o <;> simp [negBound]

theorem checkFinite_iff : ∀ l : List Ax, checkFinite l = true ↔ ∀ a ∈ l, AxOk a
  | [] => by simp [checkFinite]
  | .slice a b st :: r => by
      simp only [checkFinite, Bool.and_eq_true, Bool.not_eq_true', List.mem_cons, forall_eq_or_imp, AxOk, checkFinite_iff r,
        negBound_false_iff, and_assoc]
  | .int i :: r => by
      simp only [checkFinite, Bool.and_eq_true, Bool.not_eq_true', decide_eq_false_iff_not, not_lt, List.mem_cons, forall_eq_or_imp, AxOk,
        checkFinite_iff r]
  | .list l :: r => by
      simp only [checkFinite, Bool.and_eq_true, List.all_eq_true, Bool.not_eq_true', decide_eq_false_iff_not, not_lt, List.mem_cons,
        forall_eq_or_imp, AxOk, checkFinite_iff r]

theorem getitem_eq (shape : List Nat) (ninf : Nat) (item : List Ax) : getitem shape ninf item =
    if checkFinite (item.drop shape.length) = true ∧ item.length = shape.length + ninf then
      (select (trialDims shape (item.drop shape.length)) item).map fun r => ⟨r.shape, r.sources, positions r.sources⟩
    else .error .index := by
  simp only [getitem]
  cases checkFinite (item.drop shape.length)
  · rfl
  · by_cases hl : item.length = shape.length + ninf
    · rw [if_neg (by simp), if_neg (by simpa using hl), if_pos ⟨rfl, hl⟩]
      cases select (trialDims shape (item.drop shape.length)) item <;> rfl
    · rw [if_neg (by simp), if_pos (by simpa using hl), if_neg fun h => hl h.2]

theorem getitem_rejects {shape : List Nat} (ninf : Nat) {item : List Ax} {a : Ax} (ha : a ∈ item.drop shape.length) (hbad : ¬ AxOk a) :
    getitem shape ninf item = .error .index := by
  rw [getitem_eq, if_neg fun h => hbad ((checkFinite_iff _).1 h.1 a ha)]

theorem normInt_of_lt {n : Nat} {i : Int} (h0 : 0 ≤ i) (h : i.toNat < n) : normInt n i = some i.toNat := by
  have h2 : i < (n : Int) := by omega
  rw [normInt, if_neg (not_lt.mpr h0), if_pos ⟨h0, h2⟩]

theorem mapM_normInt_of_lt {n : Nat} : ∀ {l : List Int}, (∀ i ∈ l, (0 : Int) ≤ i) → (∀ i ∈ l, i.toNat < n) →
    l.mapM (normInt n) = some (l.map Int.toNat)
  | [], _, _ => rfl
  | x :: xs, h0, h => by
      rw [List.mapM_cons, normInt_of_lt (h0 x (List.mem_cons_self ..)) (h x (List.mem_cons_self ..)),
        mapM_normInt_of_lt (fun i hi => h0 i (List.mem_cons_of_mem _ hi)) (fun i hi => h i (List.mem_cons_of_mem _ hi))]
      rfl

theorem stepRange_empty {a b st : Nat} (h : b ≤ a) (hst : 0 < st) : stepRange a b st = [] := by
  rw [stepRange, Nat.div_eq_of_lt (by omega), List.range_zero, List.map_nil]

theorem clip_nonneg {n : Nat} {x : Int} (h : 0 ≤ x) : clip n x = min x.toNat n := by
  rw [clip, if_neg (not_lt.mpr h)]

theorem sliceIdx_trunc {a : Option Int} {b : Int} {st n : Nat} (hst : 0 < st) (ha : ∀ x, a = some x → 0 ≤ x) (hb : 0 ≤ b) (hn : b.toNat ≤ n) :
    sliceIdx n a (some b) st = sliceIdx b.toNat a (some b) st := by
  unfold sliceIdx
  simp only [clip_nonneg hb, min_eq_left hn, min_self]
  cases a with
  | none => rfl
  | some x =>
    have hx := ha x rfl
    simp only [clip_nonneg hx]
    by_cases h : x.toNat ≤ b.toNat
    · rw [min_eq_left (le_trans h hn), min_eq_left h]
    · have h' : b.toNat ≤ x.toNat := by omega
      rw [stepRange_empty (a := min x.toNat n) (le_min h' hn) hst, stepRange_empty (a := min x.toNat b.toNat) (le_min h' le_rfl) hst]

theorem normAx_trunc {a : Ax} {n : Nat} (hok : AxOk a) (hn : trialLen a ≤ n) : normAx n a = normAx (trialLen a) a := by
  cases a with
  | int i =>
    have h0 : (0 : Int) ≤ i := hok
    have hlt : i.toNat < trialLen (.int i) := Nat.lt_succ_self _
    simp only [normAx, normInt_of_lt h0 hlt, normInt_of_lt h0 (Nat.lt_of_lt_of_le hlt hn)]
  | list l =>
    have h0 : ∀ i ∈ l, (0 : Int) ≤ i := hok
    have hlt : ∀ i ∈ l, i.toNat < trialLen (.list l) := fun i hi => Nat.lt_succ_of_le (le_foldl_max_of_mem 0 hi)
    simp only [normAx, mapM_normInt_of_lt h0 hlt, mapM_normInt_of_lt h0 fun i hi => Nat.lt_of_lt_of_le (hlt i hi) hn]
  | slice s b st =>
    obtain ⟨hb, hs, hb0⟩ := hok
    cases b with
    | none => cases hb
    | some bb =>
      rw [normAx, normAx]
      by_cases hst : st = 0
      · rw [if_pos hst, if_pos hst]
      · rw [if_neg hst, if_neg hst, sliceIdx_trunc (Nat.pos_of_ne_zero hst) hs (hb0 bb rfl) hn]
        rfl

theorem normAll_append : ∀ {d1 : List Nat} {i1 : List Ax}, d1.length = i1.length → ∀ (d2 : List Nat) (i2 : List Ax),
    normAll (d1 ++ d2) (i1 ++ i2) = (do let x ← normAll d1 i1; let y ← normAll d2 i2; pure (x ++ y))
  | [], [], _, d2, i2 => (bind_pure (normAll d2 i2)).symm
  | n :: ns, a :: as, h, d2, i2 => by
    simp only [List.cons_append, normAll, normAll_append (Nat.succ.inj h) d2 i2, bind_assoc, pure_bind]

theorem normAll_trunc : ∀ {inf : List Ax} {big : List Nat}, (∀ a ∈ inf, AxOk a) → List.Forall₂ (fun a n => trialLen a ≤ n) inf big →
    normAll big inf = normAll (inf.map trialLen) inf
  | [], [], _, _ => rfl
  | a :: as, n :: ns, hok, h => by
      cases h with
      | cons h1 h2 =>
        simp only [List.map_cons, normAll, normAx_trunc (hok a (List.mem_cons_self ..)) h1,
          normAll_trunc (fun x hx => hok x (List.mem_cons_of_mem _ hx)) h2]
  | [], _ :: _, _, h => by cases h
  | _ :: _, [], _, h => by cases h

theorem select_trunc {shape : List Nat} {fin inf : List Ax} {big : List Nat} (hlen : shape.length = fin.length)
    (hok : ∀ a ∈ inf, AxOk a) (hbig : List.Forall₂ (fun a n => trialLen a ≤ n) inf big) :
    select (shape ++ big) (fin ++ inf) = select (trialDims shape inf) (fin ++ inf) := by
  unfold select trialDims
  rw [normAll_append hlen, normAll_append hlen, normAll_trunc hok hbig]

theorem insertSorted_eq (x : List Nat) : ∀ l : List (List Nat), insertSorted x l = insertNew x l
  | [] => rfl
  | y :: ys => by
    unfold insertSorted insertNew
    rw [insertSorted_eq x ys]
    -- the two sides differ in the instances that decide `=` and `<`
    by_cases h1 : x = y
    · rw [if_pos h1, if_pos h1]
    · by_cases h2 : x < y
      · rw [if_neg h1, if_neg h1, if_pos h2, if_pos h2]
      · rw [if_neg h1, if_neg h1, if_neg h2, if_neg h2]

theorem positions_eq (l : List (List Nat)) : positions l = l.foldl (fun acc s => insertNew s acc) [] := by
  unfold positions
  congr
  funext acc s
  exact insertSorted_eq s acc

theorem positions_sorted (l : List (List Nat)) : (positions l).Pairwise (· < ·) :=
  positions_eq l ▸ foldl_insertNew_sorted l

theorem mem_positions (l : List (List Nat)) (t : List Nat) : t ∈ positions l ↔ t ∈ l := by
  rw [positions_eq, mem_foldl_insertNew]

theorem positions_nodup (l : List (List Nat)) : (positions l).Nodup :=
  (positions_sorted l).imp ne_of_lt

theorem getitem_ok {shape : List Nat} {ninf : Nat} {item : List Ax} {a : Answer} (h : getitem shape ninf item = .ok a) :
    ∃ r, select (trialDims shape (item.drop shape.length)) item = .ok r ∧ a = ⟨r.shape, r.sources, positions r.sources⟩ := by
  rw [getitem_eq] at h
  split at h
  · cases hs : select (trialDims shape (item.drop shape.length)) item with
    | error e => rw [hs] at h; cases h
    | ok r => rw [hs] at h; exact ⟨r, rfl, (Except.ok.inj h).symm⟩
  · cases h

end Index
end Pyma
