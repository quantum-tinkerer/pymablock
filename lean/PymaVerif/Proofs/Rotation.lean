/-
C14/C15 (change of eigenbasis, degenerate rotation), as an instance of ring-level naturality: a
unitary `W` that only mixes states of the same block, the same unperturbed energy and the same
keep/eliminate status conjugates every element of every series of `main`.
-/
import PymaVerif.Proofs.ProblemSupp
import PymaVerif.Proofs.Isometry

namespace Pyma
namespace BlockDiag
open Dsl Generated
namespace Problem

variable {K : Type} [Field K] [StarRing K] [DecidableEq K] [Thresholds K]
attribute [local instance] Scalar.ofField
variable (p : Problem K) (ts : List (List Nat × Mat K))

def rotM (W : MatK K p.blocks) : MatK K p.blocks →+ MatK K (p.withTerms ts).blocks where
  toFun X := W.conjTranspose * X * W
  map_zero' := by simp
  map_add' X Y := by simp [Matrix.mul_add, Matrix.add_mul]

omit [DecidableEq K] [Thresholds K] in
theorem rotM_apply (W X : MatK K p.blocks) (a b : Fin p.d) :
    p.rotM ts W X a b = ∑ d : Fin p.d, (∑ c : Fin p.d, star (W c a) * X c d) * W d b := by
  show (W.conjTranspose * X * W) a b = _
  rw [Matrix.mul_apply]
  apply Finset.sum_congr rfl
  intro d _
  rw [Matrix.mul_apply]
  rfl

structure Compatible (W : MatK K p.blocks) : Prop where
  unitary₁ : W * W.conjTranspose = 1
  unitary₂ : W.conjTranspose * W = 1
  blk : ∀ a b : Fin p.d, W a b ≠ 0 → p.blk a.val = p.blk b.val
  energy : ∀ a b : Fin p.d, W a b ≠ 0 → p.energy a.val = p.energy b.val
  elim : ∀ a b c d : Fin p.d, W c a ≠ 0 → W d b ≠ 0 → p.elim c.val d.val = p.elim a.val b.val

omit [Thresholds K] in
theorem rot_pointwise (W X : MatK K p.blocks) (κ : Fin p.d → Fin p.d → K)
    (hκ : ∀ a b c d : Fin p.d, W c a ≠ 0 → W d b ≠ 0 → κ c d = κ a b) :
    p.rotM ts W (fun c d => X c d * κ c d) = fun a b => p.rotM ts W X a b * κ a b := by
  funext a b
  refine (p.rotM_apply ts W _ a b).trans (Eq.trans ?_ (congrArg (· * κ a b) (p.rotM_apply ts W X a b)).symm)
  show ∑ d, (∑ c, star (W c a) * (X c d * κ c d)) * W d b = (∑ d, (∑ c, star (W c a) * X c d) * W d b) * κ a b
  rw [Finset.sum_mul]
  apply Finset.sum_congr rfl
  intro d _
  rw [Finset.sum_mul, Finset.sum_mul, Finset.sum_mul]
  apply Finset.sum_congr rfl
  intro c _
  by_cases hc : W c a = 0
  · simp [hc]
  · by_cases hd : W d b = 0
    · simp [hd]
    · rw [hκ a b c d hc hd]; ring

theorem rotM_one (W : MatK K p.blocks) (hW : p.Compatible W) : p.rotM ts W 1 = 1 := by
  show W.conjTranspose * 1 * W = 1
  rw [Matrix.mul_one, hW.unitary₂]

/-- **C14/C15 (rotation of the eigenbasis)**: rotating the input by a compatible unitary rotates every
element of every series -/
theorem C14_rotation (hwf : p.WF) (hwf' : (p.withTerms ts).WF)
    (hns : p.NoShared) (hns' : (p.withTerms ts).NoShared) (W : MatK K p.blocks) (hW : p.Compatible W)
    (hen : ∀ a : Nat, (p.withTerms ts).energy a = p.energy a)
    (hin : ∀ idx, sem (p.withTerms ts).blocks idx ((p.withTerms ts).inputH idx)
      = p.rotM ts W (sem p.blocks idx (p.inputH idx)))
    (x : String) (hx : x ∈ mainNames) (idx : Idx) :
    mat (p.withTerms ts).blocks main (p.withTerms ts).env x idx
      = p.rotM ts W (mat p.blocks main p.env x idx) := by
  -- rotation commutes with the entrywise product by every table that takes the same value at `(c, d)` and `(a, b)` whenever `W` mixes `c` with `a` and `d`
  -- with `b`; the solver's table, the mask and the block indicators read their indices through `blk`, `energy` and `elim`, which `Compatible` keeps
  refine p.natural_withTerms ts hen (p.rotM ts W) ?_ ?_ ?_
    (fun κ => ∀ a b c d : Fin p.d, W c a ≠ 0 → W d b ≠ 0 → κ c d = κ a b) (fun κ hκ X => p.rot_pointwise ts W X κ hκ) ?_ ?_ hin
    (p.rotM_one ts W hW) ?_ hwf hwf' hns hns' x hx idx
  · exact fun X Y => sandwich_mul hW.unitary₁ X Y
  · intro X
    show W.conjTranspose * X.conjTranspose * W = (W.conjTranspose * X * W).conjTranspose
    rw [Matrix.conjTranspose_mul, Matrix.conjTranspose_mul, Matrix.conjTranspose_conjTranspose,
      Matrix.mul_assoc]
  · intro k X
    show W.conjTranspose * (((k : K)⁻¹) • X) * W = ((k : K)⁻¹) • (W.conjTranspose * X * W)
    rw [Matrix.mul_smul, Matrix.smul_mul]
  · intro idx a b c d hc hd
    simp only [solveK, inBlock, hW.blk c a hc, hW.blk d b hd, hW.energy c a hc, hW.energy d b hd]
    rfl
  · intro f a b c d hc hd
    simp only [hW.elim a b c d hc hd]
  · intro i a _ c _ hc _
    simp only [hW.blk c a hc]

end Problem
end BlockDiag
end Pyma
#print axioms Pyma.BlockDiag.Problem.C14_rotation
