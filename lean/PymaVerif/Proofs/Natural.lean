/-
Theorem D (naturality of the reference semantics): a family of maps on values that commutes with
the value operations and with the primitives of two environments carries derivations of the one to
derivations of the other, for every program; the two scalar types may differ (C06, C07, C14).  It is
proved relative to a set of orders closed under splitting (`Holds.mapOn`): the inputs need to correspond
at those orders only, which with the identity as map is causality (`Causal`).
-/
import PymaVerif.Proofs.DslDen

namespace Pyma
namespace Dsl

variable {K K' : Type} [Scalar K] [Scalar K']

structure ValMap (φ : Idx → SVal K → SVal K') : Prop where
  zero : ∀ idx, φ idx .zero = .zero
  isZero : ∀ idx v, (φ idx v).isZeroS = v.isZeroS
  vadd : ∀ idx x y w, vadd x y = .ok w → vadd (φ idx x) (φ idx y) = .ok (φ idx w)
  vneg : ∀ idx x w, vneg x = .ok w → vneg (φ idx x) = .ok (φ idx w)
  vdiv : ∀ idx x k w, vdiv x k = .ok w → vdiv (φ idx x) k = .ok (φ idx w)
  vadj : ∀ idx x, φ idx (vadj x) = vadj (φ idx.swap x)
  vmul : ∀ i m j na nb n l r, l.isZeroS = false → r.isZeroS = false →
    φ ⟨i, j, n⟩ (vmul l r) = vmul (φ ⟨i, m, na⟩ l) (φ ⟨m, j, nb⟩ r)

structure EnvMap (φ : Idx → SVal K → SVal K') (env : Env K) (env' : Env K') : Prop where
  nblocks : env'.nblocks = env.nblocks
  inputs : env'.inputs = env.inputs
  input : ∀ h idx, env'.input h idx = φ idx (env.input h idx)
  fnSer : ∀ f x idx w, env.fn f (.inl x) idx = .ok w → env'.fn f (.inl x) idx = .ok (φ idx w)
  fnVal : ∀ f v idx w, env.fn f (.inr v) idx = .ok w → env'.fn f (.inr (φ idx v)) idx = .ok (φ idx w)
  flagName : env'.flagName = env.flagName
  flagIdx : env'.flagIdx = env.flagIdx
  diag : ∀ v idx, env'.diag (φ idx v) idx = φ idx (env.diag v idx)
  offdiag_none : env.offdiag = none → env'.offdiag = none
  offdiag_some : ∀ od, env.offdiag = some od → ∃ od', env'.offdiag = some od' ∧
    ∀ v idx, od' (φ idx v) idx = φ idx (od v idx)

variable {φ : Idx → SVal K → SVal K'}

theorem ValMap.vsub (hφ : ValMap φ) (idx : Idx) (x y w : SVal K) (h : Dsl.vsub x y = .ok w) :
    Dsl.vsub (φ idx x) (φ idx y) = .ok (φ idx w) := by
  simp only [Dsl.vsub, bind, Except.bind] at h ⊢
  cases hy : Dsl.vneg y with
  | error e => rw [hy] at h; cases h
  | ok y' =>
    rw [hy] at h
    rw [hφ.vneg idx y y' hy]
    exact hφ.vadd idx x y' w h

theorem ValMap.markerVal (hφ : ValMap φ) (idx : Idx) (anti : Bool) (acc v r : SVal K)
    (h : Dsl.markerVal anti acc v = .ok r) :
    Dsl.markerVal anti (φ idx acc) (φ idx.swap v) = .ok (φ idx r) := by
  simp only [Dsl.markerVal, bind, Except.bind] at h ⊢
  cases anti
  · simp only [Bool.false_eq_true, ↓reduceIte, pure, Except.pure] at h ⊢
    rw [← hφ.vadj]
    exact hφ.vadd idx _ _ _ h
  · simp only [↓reduceIte] at h ⊢
    cases hv : Dsl.vneg (Dsl.vadj v) with
    | error e => rw [hv] at h; cases h
    | ok v' =>
      rw [hv] at h
      rw [← hφ.vadj, hφ.vneg idx _ _ hv]
      exact hφ.vadd idx _ _ _ h

theorem ValMap.id : ValMap fun (_ : Idx) (v : SVal K) => v :=
  ⟨fun _ => rfl, fun _ _ => rfl, fun _ _ _ _ h => h, fun _ _ _ h => h, fun _ _ _ _ h => h, fun _ _ => rfl,
    fun _ _ _ _ _ _ _ _ _ _ => rfl⟩

omit [Scalar K] in
theorem EnvMap.refl (env : Env K) : EnvMap (fun _ v => v) env env :=
  ⟨rfl, rfl, fun _ _ => rfl, fun _ _ _ _ h => h, fun _ _ _ _ h => h, rfl, rfl, fun _ _ => rfl, fun h => h,
    fun od h => ⟨od, h, fun _ _ => rfl⟩⟩

def J.map (φ : Idx → SVal K → SVal K') : J K → J K'
  | .elem x idx => .elem x idx
  | .expr e idx => .expr e idx
  | .body self idx st acc => .body self idx st (φ idx acc)
  | .pairs a b idx ps acc => .pairs a b idx ps (φ idx acc)

def J.idx : J K → Idx
  | .elem _ idx => idx
  | .expr _ idx => idx
  | .body _ idx _ _ => idx
  | .pairs _ _ idx _ _ => idx

omit [Scalar K] [Scalar K'] in
theorem evalFlag_map {env : Env K} {env' : Env K'} (he : EnvMap φ env env') (idx : Idx) (fl : Flag) :
    evalFlag env' idx fl = evalFlag env idx fl := by
  cases fl <;> simp [evalFlag, he.flagName, he.flagIdx]

omit [Scalar K] [Scalar K'] in
theorem kindOf_map {p : Prog} {env : Env K} {env' : Env K'} (he : EnvMap φ env env') (x : String) :
    kindOf p env' x = kindOf p env x := by
  unfold kindOf; rw [he.inputs]

theorem startVal_map {env : Env K} {env' : Env K'} (hφ : ValMap φ) (hone : ∀ idx, φ idx .one = .one)
    {st : Start} (idx : Idx) (hin : ∀ h, env'.input h idx = φ idx (env.input h idx)) :
    startVal env' st idx = (startVal env st idx).map (φ idx) := by
  unfold startVal
  split
  · cases st with
    | none => rfl
    | zero => simp [hφ.zero]
    | one => simp only; split <;> simp [hone]
    | input h => simp [hin]
  · rfl

def Env.withInput (env : Env K) (inp : String → Idx → SVal K) : Env K := { env with input := inp }

def J.within (D : List Nat → Prop) : J K → Prop
  | .pairs _ _ idx ps _ => D idx.n ∧ ∀ t ∈ ps, D t.2.1 ∧ D t.2.2
  | j => D j.idx.n

/-- **Theorem D**, relative to a set `D` of orders closed under splitting: the inputs need to correspond at the
orders of `D` only (`he` asks everything else of `env'`: its inputs are put in by hand) -/
theorem Holds.mapOn {p : Prog} {env : Env K} {env' : Env K'} (D : List Nat → Prop)
    (hD : ∀ N n, D n → ∀ t ∈ pairsOf N n, D t.2.1 ∧ D t.2.2) (hφ : ValMap φ) (hone : ∀ idx, φ idx .one = .one)
    (he : EnvMap φ env (env'.withInput fun h idx => φ idx (env.input h idx)))
    (hin : ∀ h idx, D idx.n → env'.input h idx = φ idx (env.input h idx))
    {j : J K} {v : SVal K} (h : Holds p env j v) : j.within D → Holds p env' (j.map φ) (φ j.idx v) := by
  have hk : ∀ x, kindOf p env' x = kindOf p env x := fun x => (kindOf_map he x :)
  have hf : ∀ idx fl, evalFlag env' idx fl = evalFlag env idx fl := fun idx fl => (evalFlag_map he idx fl :)
  induction h with
  | ser _ ih => exact fun hw => .ser (ih hw)
  | @adj x idx v _ ih =>
    intro hw
    show Holds p env' (.expr (.adj x) idx) (φ idx (vadj v))
    rw [hφ.vadj]; exact .adj (ih hw)
  | neg _ hv ih => exact fun hw => .neg (ih hw) (hφ.vneg _ _ _ hv)
  | add _ _ hv iha ihb => exact fun hw => .add (iha hw) (ihb hw) (hφ.vadd _ _ _ _ hv)
  | sub _ _ hv iha ihb => exact fun hw => .sub (iha hw) (ihb hw) (hφ.vsub _ _ _ _ hv)
  | divInt _ hv ih => exact fun hw => .divInt (ih hw) (hφ.vdiv _ _ _ _ hv)
  | callSer hv => exact fun _ => .callSer (he.fnSer _ _ _ _ hv)
  | callExpr _ hv ih => exact fun hw => .callExpr (ih hw) (he.fnVal _ _ _ _ hv)
  | @zero idx => intro _; show Holds p env' (.expr .zero idx) (φ idx .zero); rw [hφ.zero]; exact .zero
  | iteT hc _ ih => exact fun hw => .iteT (by rw [hf]; exact hc) (ih hw)
  | iteF hc _ ih => exact fun hw => .iteF (by rw [hf]; exact hc) (ih hw)
  | bnil => exact fun _ => .bnil
  | markerHit hc _ hv ih => exact fun hw => .markerHit hc (ih hw) (hφ.markerVal _ _ _ _ _ hv)
  | markerMiss hc _ ih => exact fun hw => .markerMiss hc (ih hw)
  | lowerHit hc _ hv ih => exact fun hw => .lowerHit hc (ih hw) (hφ.vadd _ _ _ _ hv)
  | lowerMiss hc _ ih => exact fun hw => .lowerMiss hc (ih hw)
  | @diagHit self idx e rest acc v acc' r hc _ hv _ ihe ihb =>
    intro hw
    have h := hφ.vadd idx acc (env.diag v idx) acc' hv
    rw [← he.diag] at h
    exact .diagHit hc (ihe hw) h (ihb hw)
  | diagMiss hc _ ih => exact fun hw => .diagMiss hc (ih hw)
  | offHit hc _ hv _ ihe ihb => exact fun hw => .offHit hc (ihe hw) (hφ.vadd _ _ _ _ hv) (ihb hw)
  | @offWrap self idx e rest acc v acc' r od hc hod _ hv _ ihe ihb =>
    intro hw
    obtain ⟨od', h1, h2⟩ := he.offdiag_some _ hod
    have h := hφ.vadd idx acc (od v idx) acc' hv
    rw [← h2] at h
    exact .offWrap hc h1 (ihe hw) h (ihb hw)
  | offSkip hc hod _ ih => exact fun hw => .offSkip hc (he.offdiag_none hod) (ih hw)
  | default _ hv _ ihe ihb => exact fun hw => .default (ihe hw) (hφ.vadd _ _ _ _ hv) (ihb hw)
  | pnil => exact fun _ => .pnil
  | leftZero hc _ hz _ ihl ihr =>
    intro ⟨hw, hps⟩
    obtain ⟨hb, hrest⟩ := List.forall_mem_cons.mp hps
    exact .leftZero hc (ihl hb.1) ((hφ.isZero _ _).trans hz) (ihr ⟨hw, hrest⟩)
  | leftThenRightZero hc _ hz _ hzr _ ihl ihrr ihr =>
    intro ⟨hw, hps⟩
    obtain ⟨hb, hrest⟩ := List.forall_mem_cons.mp hps
    exact .leftThenRightZero hc (ihl hb.1) ((hφ.isZero _ _).trans hz) (ihrr hb.2) ((hφ.isZero _ _).trans hzr) (ihr ⟨hw, hrest⟩)
  | rightZero hc _ hz _ ihrr ihr =>
    intro ⟨hw, hps⟩
    obtain ⟨hb, hrest⟩ := List.forall_mem_cons.mp hps
    exact .rightZero hc (ihrr hb.2) ((hφ.isZero _ _).trans hz) (ihr ⟨hw, hrest⟩)
  | rightThenLeftZero hc _ hzr _ hz _ ihrr ihl ihr =>
    intro ⟨hw, hps⟩
    obtain ⟨hb, hrest⟩ := List.forall_mem_cons.mp hps
    exact .rightThenLeftZero hc (ihrr hb.2) ((hφ.isZero _ _).trans hzr) (ihl hb.1) ((hφ.isZero _ _).trans hz) (ihr ⟨hw, hrest⟩)
  | @both a b idx m na nb rest acc acc' r l rr _ hz _ hzr hv _ ihl ihrr ihr =>
    intro ⟨hw, hps⟩
    obtain ⟨hb, hrest⟩ := List.forall_mem_cons.mp hps
    refine .both (ihl hb.1) ((hφ.isZero _ _).trans hz) (ihrr hb.2) ((hφ.isZero _ _).trans hzr) ?_ (ihr ⟨hw, hrest⟩)
    have := hφ.vadd idx _ _ _ hv
    rw [hφ.vmul idx.i m idx.j na nb idx.n l rr hz hzr] at this
    exact this
  | @input x idx hki =>
    intro hw
    show Holds p env' (.elem x idx) (φ idx (env.input x idx))
    rw [← hin x idx hw]
    exact .input (by rw [hk]; exact hki)
  | @pinned x d idx v hki hs =>
    exact fun hw => .pinned (by rw [hk]; exact hki) (by rw [startVal_map hφ hone idx (hin · idx hw), hs]; rfl)
  | @body x d idx v hki hs _ ih =>
    intro hw
    refine .body (by rw [hk]; exact hki) (by rw [startVal_map hφ hone idx (hin · idx hw), hs]; rfl) ?_
    simpa only [J.map, J.idx, hφ.zero] using ih hw
  | product hki _ ih =>
    intro hw
    refine .product (by rw [hk]; exact hki) ?_
    rw [show env'.nblocks = env.nblocks from he.nblocks]
    simpa only [J.map, J.idx, hφ.zero] using ih ⟨hw, hD _ _ hw⟩


/-- **Theorem D** -/
theorem Holds.map {p : Prog} {env : Env K} {env' : Env K'} (hφ : ValMap φ) (hone : ∀ idx, φ idx .one = .one)
    (he : EnvMap φ env env') {j : J K} {v : SVal K} (h : Holds p env j v) :
    Holds p env' (j.map φ) (φ j.idx v) := by
  have e : (fun h idx => φ idx (env.input h idx)) = env'.input :=
    funext fun h => funext fun idx => (he.input h idx).symm
  refine h.mapOn (fun _ => True) (fun _ _ _ _ _ => ⟨trivial, trivial⟩) hφ hone (e ▸ he) (fun h idx _ => he.input h idx) ?_
  cases j <;> simp [J.within]

theorem Den.map {p : Prog} {env : Env K} {env' : Env K'} (hφ : ValMap φ) (hone : ∀ idx, φ idx .one = .one)
    (he : EnvMap φ env env') {x : String} {idx : Idx} {v : SVal K} (h : Den p env x idx v) :
    Den p env' x idx (φ idx v) :=
  Holds.map hφ hone he h

end Dsl
end Pyma

#print axioms Pyma.Dsl.Den.map
