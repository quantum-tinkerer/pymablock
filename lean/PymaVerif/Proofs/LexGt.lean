/-
Python's tuple comparison on multi-orders (`Cauchy.lexGt`) is the lexicographic order of lists, hence a strict total order.
-/
import PymaVerif.Model.Cauchy
import Mathlib.Data.List.Lex

namespace Pyma
namespace Cauchy

theorem lexGt_iff : ∀ {a b : List Nat}, lexGt a b = true ↔ b < a
  | [], [] => by simp [lexGt]
  | [], _ :: _ => by simp [lexGt]
  | _ :: _, [] => by simp [lexGt]
  | x :: xs, y :: ys => by
    rw [lexGt, List.cons_lt_cons_iff, ← lexGt_iff (a := xs)]
    rcases Nat.lt_trichotomy x y with h | rfl | h
    · simp [h, Nat.lt_asymm h, Nat.ne_of_gt h]
    · simp
    · simp [h]

theorem lexGt_irrefl (a : List Nat) : lexGt a a = false :=
  Bool.eq_false_iff.mpr fun h => lt_irrefl a (lexGt_iff.mp h)

theorem lexGt_asymm (a b : List Nat) (h : lexGt a b = true) : lexGt b a = false :=
  Bool.eq_false_iff.mpr fun h' => lt_asymm (lexGt_iff.mp h) (lexGt_iff.mp h')

theorem lexGt_total (a b : List Nat) (hne : a ≠ b) : lexGt a b = true ∨ lexGt b a = true :=
  (lt_or_gt_of_ne hne).symm.imp lexGt_iff.mpr lexGt_iff.mpr

end Cauchy
end Pyma
