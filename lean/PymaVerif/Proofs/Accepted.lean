/-
Accepted inputs: a decidable description of the problems `block_diagonalize` accepts on its exact
Hermitian path, and the discharge of every hypothesis bundle of the `main` chain from it.
The end-to-end statements of C01/C02 are restated here with `Accepted` as their only hypothesis on the
input.
-/
import PymaVerif.Proofs.MainTotal
import PymaVerif.Proofs.MainOpt

namespace Pyma
namespace BlockDiag
open Dsl Generated MvPowerSeries
namespace Problem

variable {K : Type} [Field K] [StarRing K] [DecidableEq K] [Thresholds K]
attribute [local instance] Scalar.ofField
variable (p : Problem K)

/-- every field is decidable when equality on `K` is -/
structure Accepted : Prop where
  wf : ∀ t ∈ p.terms, t.2.d = p.d
  blocks_lt : ∀ a : Fin p.d, p.blk a.val < p.nblocks
  atol_nonneg : 0 ≤ p.atol
  herm : ∀ t ∈ p.terms, ∀ a b : Fin p.d, star (t.2.get b.val a.val) = t.2.get a.val b.val
  h0_diag : ∀ t ∈ p.terms, t.1 = p.zeroOrder → ∀ a b : Fin p.d, a ≠ b → t.2.get a.val b.val = 0
  elim_symm : ∀ a b : Fin p.d, p.blk a.val = p.blk b.val → p.elimIn a.val b.val = p.elimIn b.val a.val
  diag_kept : ∀ a : Fin p.d, p.keptE a.val a.val = true
  gap : ∀ a b : Fin p.d, p.keptE a.val b.val = false →
    Scalar.absGt (p.energy a.val - p.energy b.val) p.atol = true
  comm_trans : ∀ a b c : Fin p.d, p.commuting (p.blk a.val) = true → p.keptE a.val b.val = true →
    p.keptE c.val b.val = true → p.keptE a.val c.val = true
  no_shared : ∀ a b : Fin p.d, p.blk a.val ≠ p.blk b.val →
    Scalar.isClose (p.energy a.val) (p.energy b.val) = false

variable {p}

theorem noShared_of (hns : ∀ a b : Fin p.d, p.blk a.val ≠ p.blk b.val →
    Scalar.isClose (p.energy a.val) (p.energy b.val) = false) : p.NoShared := by
  intro i j
  by_cases hij : i = j
  · simp [hij]
  · have hb : (i != j) = true := by simpa using hij
    rw [hb, Bool.true_and, List.any_eq_false]
    intro a ha
    rw [Bool.not_eq_true, List.any_eq_false]
    intro b hb
    rw [Bool.not_eq_true, Bool.and_eq_false_iff]
    by_cases hin : p.inBlock i j a b = true
    · right
      simp only [inBlock, Bool.and_eq_true, beq_iff_eq] at hin
      have := hns ⟨a, List.mem_range.mp ha⟩ ⟨b, List.mem_range.mp hb⟩
        (by simp only [hin.1, hin.2]; exact hij)
      exact this
    · left; simpa using hin

theorem Accepted.noShared (h : p.Accepted) : p.NoShared := noShared_of h.no_shared

theorem Accepted.ready (h : p.Accepted) : p.Ready where
  wf := h.wf
  tot := p.total_main h.noShared
  hN := h.blocks_lt

theorem G_H (P : Prog) (hwf : p.WF) (n : List Nat) (a b : Fin p.d) :
    G p.blocks P p.env "H" n a b = match p.term n with
      | none => 0
      | some h => h.get a.val b.val := by
  rw [(p.den_H P).G_eq, (means_input hwf _ _).2]
  cases p.term n with
  | none => rfl
  | some h => simp [hadamard, inBlock, Mat.toMatrix]

theorem g_H (hwf : p.WF) (n : List Nat) (a b : Fin p.d) :
    p.g "H" n a b = match p.term n with
      | none => 0
      | some h => h.get a.val b.val := G_H main hwf n a b

theorem toList_zero (k : Nat) : toList (0 : Fin k →₀ ℕ) = List.replicate k 0 := by
  simp [toList, List.ofFn_const]

theorem H0_spec_of (P : Prog) (hwf : p.WF)
    (hd : ∀ t ∈ p.terms, t.1 = p.zeroOrder → ∀ a b : Fin p.d, a ≠ b → t.2.get a.val b.val = 0) :
    G p.blocks P p.env "H" (toList (0 : Fin p.nparams →₀ ℕ)) = p.H0mat := by
  ext a b
  rw [G_H P hwf, toList_zero]
  simp only [H0mat, Matrix.diagonal_apply, energy, zeroOrder]
  cases ht : p.term (List.replicate p.nparams 0) with
  | none => simp
  | some m =>
    by_cases hab : a = b
    · subst hab; simp
    · simp only [hab, ↓reduceIte]
      exact hd _ (p.term_mem ht) rfl a b hab

theorem Accepted.sym [LawfulThresholds K] (h : p.Accepted) : p.Sym where
  elim_symm := h.elim_symm
  energy_real := by
    intro a
    unfold energy
    cases ht : p.term p.zeroOrder with
    | none => simp
    | some m => exact h.herm _ (p.term_mem ht) a a
  absGt_neg := fun x => LawfulThresholds.absGt_neg x p.atol

theorem Accepted.acc [LawfulThresholds K] (h : p.Accepted) : p.Acc where
  herm_H := by
    intro n a b
    rw [g_H h.wf, g_H h.wf]
    cases ht : p.term n with
    | none => simp
    | some m => exact h.herm _ (p.term_mem ht) a b
  H0_spec := H0_spec_of main h.wf h.h0_diag
  diag_kept := h.diag_kept
  gap := h.gap
  absGt_ne := fun x => LawfulThresholds.absGt_ne x p.atol h.atol_nonneg
  comm_trans := h.comm_trans

variable [LawfulThresholds K] (h : p.Accepted) (h2 : (2 : K) ≠ 0)
include h h2

/-- **C01** (model level): the series the algorithm returns satisfy `U† H U = H̃` to all orders,
for every accepted problem — with or without the two-block optimisation. -/
theorem C01 : p.sr "U†" * p.sr "H" * p.sr "U" = p.sr "H_tilde" := p.C01_main h.ready h.sym h.acc h2

/-- **C02** (model level): `U† U = 1`, `U U† = 1` and `U†` is the adjoint of `U`, to all orders. -/
theorem C02 : p.sr "U†" * p.sr "U" = 1 ∧ p.sr "U" * p.sr "U†" = 1 ∧ star (p.sr "U") = p.sr "U†" :=
  p.C02_main h.ready h.sym h.acc h2

/-- **C01**, second half: `U† H U` has no eliminated entry, at any order -/
theorem C01_elim (m : Fin p.nparams →₀ ℕ) (a b : Fin p.d) (hk : p.keptE a.val b.val = false) :
    coeff m (p.sr "U†" * p.sr "H" * p.sr "U") a b = 0 := by
  rw [C01 h h2]; exact p.Ht_elim h.ready h.acc m a b hk

/-- **C02**, third part: `H̃` is Hermitian at every order -/
theorem C02_Ht_herm : star (p.sr "H_tilde") = p.sr "H_tilde" := by
  obtain ⟨_, _, hadj⟩ := C02 h h2
  have hadj' : star (p.sr "U†") = p.sr "U" := by rw [← hadj, star_star]
  rw [← C01 h h2, star_mul, star_mul, hadj, hadj', p.sr_H_star h.acc, mul_assoc]

end Problem
end BlockDiag
end Pyma
#print axioms Pyma.BlockDiag.Problem.C01
#print axioms Pyma.BlockDiag.Problem.C02
