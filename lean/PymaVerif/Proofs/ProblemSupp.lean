/-
Instances of ring-level naturality (`sem_natural`) whose first environment is a `Problem`.  Solver and masks of a `Problem` are entrywise products with
tables of coefficients that depend on the unperturbed energies, the blocks and the elimination pattern only (`solveSem_eq`, `hadamard_eq`).  Hence, for two
problems of the same shape with the same unperturbed energies, a multiplicative, adjoint-preserving map of the carrier that commutes with the entrywise
product by every table of a class `Inv` containing those tables maps every element of every series of `main` of the first run to that of the second
(`natural_withTerms`): entrywise conjugation (real tables) and rotation inside degenerate levels (tables constant on what the rotation mixes) are instances.
-/
import PymaVerif.Proofs.SemNatural
import PymaVerif.Proofs.MainTotal

namespace Pyma
namespace BlockDiag
namespace Problem
open Dsl Generated

variable {K : Type} [Field K] [StarRing K] [DecidableEq K] [Thresholds K]
attribute [local instance] Scalar.ofField
variable (p : Problem K)

def solveK (idx : Idx) (a b : Fin p.d) : K :=
  if p.inBlock idx.i idx.j a.val b.val then
    if Scalar.absGt (p.energy a.val - p.energy b.val) p.atol then (p.energy a.val - p.energy b.val)⁻¹ else 0
  else 0

theorem solveSem_eq (X : MatK K p.blocks) (idx : Idx) : p.solveSem X idx = fun a b => X a b * p.solveK idx a b := by
  funext a b
  simp only [solveSem, solveK]
  split
  · split
    · rfl
    · rw [mul_zero]
  · rw [mul_zero]

omit [StarRing K] [DecidableEq K] [Thresholds K] in
theorem hadamard_eq (pred : Nat → Nat → Bool) (X : MatK K p.blocks) :
    p.hadamard pred X = fun a b => X a b * if pred a.val b.val then 1 else 0 := by
  funext a b
  simp only [hadamard]
  split
  · rw [mul_one]
  · rw [mul_zero]

theorem solveSem_supp (X : MatK K p.blocks) (idx : Idx) : SuppM p.blocks idx.i idx.j (p.solveSem X idx) := by
  intro a b hn
  have : p.inBlock idx.i idx.j a.val b.val = false := by
    rw [Bool.eq_false_iff, Ne, inBlock_iff]
    exact hn
  simp only [solveSem, this, Bool.false_eq_true, ↓reduceIte]

theorem envSem_fnVal (hwf : p.WF) (f : String) (X : MatK K p.blocks) (idx : Idx) :
    (p.envSem hwf).fnVal f X idx = if f == "solve_sylvester" then p.solveSem X idx else 0 := rfl

theorem envSem_fnVal_solve (hwf : p.WF) (X : MatK K p.blocks) (idx : Idx) : (p.envSem hwf).fnVal "solve_sylvester" X idx = p.solveSem X idx :=
  (p.envSem_fnVal hwf _ X idx).trans (if_pos (beq_self_eq_true _))

theorem fnVal_supp (hwf : p.WF) (f : String) (X : MatK K p.blocks) (idx : Idx)
    (_ : SuppM p.blocks idx.i idx.j X) : SuppM p.blocks idx.i idx.j ((p.envSem hwf).fnVal f X idx) := by
  rw [envSem_fnVal]
  split
  · exact p.solveSem_supp X idx
  · exact SuppM.zero

theorem env_offdiag_isSome : p.env.offdiag.isSome = !fdIsEmpty p.fdEff := by
  rw [env_offdiag]
  cases fdIsEmpty p.fdEff <;> rfl

section sameShape
variable (ts : List (List Nat × Mat K)) (hen : ∀ a : Nat, (p.withTerms ts).energy a = p.energy a)
include hen

theorem withTerms_solveSem : (p.withTerms ts).solveSem = p.solveSem := by
  funext X idx a b
  simp only [solveSem, hen]
  rfl

theorem withTerms_elim : (p.withTerms ts).elim = p.elim := by
  have hclose : (p.withTerms ts).closeIn = p.closeIn := by
    funext x y
    simp only [closeIn, equalEigs, hen]
    rfl
  funext c d
  simp only [elim, sameLevel, hclose]
  rfl

variable (Φ : MatK K p.blocks →+ MatK K (p.withTerms ts).blocks)
  (hmul : ∀ X Y, Φ (X * Y) = Φ X * Φ Y) (hadj : ∀ X, Φ X.conjTranspose = (Φ X).conjTranspose)
  (hsmul : ∀ (k : Int) X, Φ (((k : K)⁻¹) • X) = ((k : K)⁻¹) • Φ X)
  (Inv : (Fin p.d → Fin p.d → K) → Prop)
  (hpt : ∀ κ, Inv κ → ∀ X : MatK K p.blocks, Φ (fun c d => X c d * κ c d) = fun a b => Φ X a b * κ a b)
  (hsolve : ∀ idx, Inv (p.solveK idx)) (helim : ∀ f : Bool → Bool, Inv fun a b => if f (p.elim a.val b.val) then 1 else 0)
  (hin : ∀ idx, sem (p.withTerms ts).blocks idx ((p.withTerms ts).inputH idx) = Φ (sem p.blocks idx (p.inputH idx)))
include hmul hadj hsmul hpt hsolve helim hin

theorem inter_withTerms (hwf : p.WF) (hwf' : (p.withTerms ts).WF) :
    Inter Φ p.env (p.withTerms ts).env (p.envSem hwf) ((p.withTerms ts).envSem hwf') where
  mul := hmul
  adj := hadj
  smul := hsmul
  inputs := rfl
  nblocks := rfl
  input := fun _ idx => hin idx
  fn_supp := p.fnVal_supp hwf
  fnVal := by
    intro f X idx _
    rw [envSem_fnVal, envSem_fnVal]
    split
    · rw [p.withTerms_solveSem ts hen, p.solveSem_eq X idx, hpt _ (hsolve idx)]
      exact p.solveSem_eq (Φ X) idx
    · exact Φ.map_zero.symm
  diag := by
    intro X idx _
    show (if p.selected idx.i then (p.withTerms ts).hadamard (fun a b => !(p.withTerms ts).elim a b) (Φ X) else Φ X)
      = Φ (if p.selected idx.i then p.hadamard (fun a b => !p.elim a b) X else X)
    split
    · rw [p.withTerms_elim ts hen, p.hadamard_eq _ X, hpt _ (helim not)]
      exact p.hadamard_eq (fun a b => !p.elim a b) (Φ X)
    · rfl
  offdiag := by
    intro X idx _
    show (if p.selected idx.i then (p.withTerms ts).hadamard (fun a b => (p.withTerms ts).elim a b) (Φ X) else 0)
      = Φ (if p.selected idx.i then p.hadamard (fun a b => p.elim a b) X else 0)
    split
    · rw [p.withTerms_elim ts hen, p.hadamard_eq _ X, hpt _ (helim fun e => e)]
      exact p.hadamard_eq p.elim (Φ X)
    · exact Φ.map_zero.symm
  offdiag_some := (p.withTerms ts).env_offdiag_isSome.trans p.env_offdiag_isSome.symm
  flagName := rfl
  flagIdx := rfl

theorem natural_withTerms (hΦ1 : Φ 1 = 1) (hblk : ∀ i, Inv fun a _ => if p.blk a.val = i then 1 else 0)
    (hwf : p.WF) (hwf' : (p.withTerms ts).WF) (hns : p.NoShared) (hns' : (p.withTerms ts).NoShared)
    (x : String) (hx : x ∈ mainNames) (idx : Idx) :
    mat (p.withTerms ts).blocks main (p.withTerms ts).env x idx = Φ (mat p.blocks main p.env x idx) := by
  refine sem_natural Φ (p.envSem hwf) ((p.withTerms ts).envSem hwf')
    (p.inter_withTerms ts hen Φ hmul hadj hsmul Inv hpt hsolve helim hin hwf hwf') mainCert mainCert_ok (p.envOK hwf)
    ((p.withTerms ts).envOK hwf') (p.envTot hns) ((p.withTerms ts).envTot hns') (fun _ i => ?_) (deg idx.n) x hx idx rfl
  -- the identity of block `i` is the identity times the indicator of the block
  have e : blockId p.blocks i = fun a b => (1 : MatK K p.blocks) a b * if p.blk a.val = i then 1 else 0 := by
    funext a b
    simp only [blockId, Matrix.diagonal_apply, Matrix.one_apply]
    rw [boole_mul]
  rw [e, hpt _ (hblk i), hΦ1]
  exact e.symm

end sameShape

end Problem
end BlockDiag
end Pyma
