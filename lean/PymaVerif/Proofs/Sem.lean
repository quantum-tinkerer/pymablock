/-
The values of the evaluator as block matrices.  `Supp`: a value of block `(i,j)` is a sentinel or a
`d × d` array matrix vanishing outside rows of block `i` and columns of block `j`; every derivable
element is one (`Holds.supp`).  `sem` forgets into Mathlib matrices; `Means` puts the two together, with
one lemma per value operation of the evaluator.  Support is a property of the meaning (`SuppM`), so it
is proved for Mathlib matrices only and reaches array matrices through `Mat.toMatrix`.
-/
import PymaVerif.Proofs.DslDen
import PymaVerif.Proofs.MatBridge

namespace Pyma
namespace Dsl

variable {K : Type} [Field K] [StarRing K] [DecidableEq K] [Thresholds K]
attribute [local instance] Scalar.ofField

/-- block structure: dimension and the block of each state -/
structure Blocks where
  d : Nat
  blk : Nat → Nat

def Blocks.inB (B : Blocks) (i j a b : Nat) : Prop := B.blk a = i ∧ B.blk b = j

def MatSupp (B : Blocks) (i j : Nat) (m : Mat K) : Prop :=
  m.d = B.d ∧ ∀ a b, a < B.d → b < B.d → ¬ B.inB i j a b → m.get a b = 0

def Supp (B : Blocks) (idx : Idx) : SVal K → Prop
  | .zero => True
  | .one => idx.i = idx.j
  | .val m => MatSupp B idx.i idx.j m

structure EnvOK (B : Blocks) (env : Env K) : Prop where
  input : ∀ x idx, Supp B idx (env.input x idx)
  fnSer : ∀ f x idx w, env.fn f (.inl x) idx = .ok w → Supp B idx w
  fnVal : ∀ f v idx w, Supp B idx v → env.fn f (.inr v) idx = .ok w → Supp B idx w
  diag : ∀ v idx, Supp B idx v → Supp B idx (env.diag v idx)
  offdiag : ∀ od v idx, env.offdiag = some od → Supp B idx v → Supp B idx (od v idx)

abbrev MatK (K : Type) (B : Blocks) := Matrix (Fin B.d) (Fin B.d) K

def blockId (B : Blocks) (i : Nat) : MatK K B :=
  Matrix.diagonal fun a => if B.blk a.val = i then 1 else 0

def sem (B : Blocks) (idx : Idx) : SVal K → MatK K B
  | .zero => 0
  | .one => blockId B idx.i
  | .val m => Mat.toMatrix B.d m

def SuppM (B : Blocks) (i j : Nat) (M : MatK K B) : Prop :=
  ∀ a b : Fin B.d, ¬ (B.blk a.val = i ∧ B.blk b.val = j) → M a b = 0

abbrev Means (B : Blocks) (idx : Idx) (v : SVal K) (M : MatK K B) : Prop :=
  Supp B idx v ∧ sem B idx v = M

variable {B : Blocks}

section
omit [DecidableEq K] [Thresholds K]

theorem SuppM.conjTranspose {i j : Nat} {X : MatK K B} (hX : SuppM B i j X) :
    SuppM B j i X.conjTranspose := by
  intro a b h
  simp only [Matrix.conjTranspose_apply]
  rw [hX b a (fun hh => h ⟨hh.2, hh.1⟩), star_zero]

theorem blockId_conjTranspose (i : Nat) : (blockId B i : MatK K B).conjTranspose = blockId B i := by
  simp only [blockId, Matrix.diagonal_conjTranspose, Pi.star_def, apply_ite star, star_one, star_zero]

omit [StarRing K]

theorem SuppM.zero {i j : Nat} : SuppM B i j (0 : MatK K B) := fun _ _ _ => rfl

theorem SuppM.add {i j : Nat} {X Y : MatK K B} (hX : SuppM B i j X) (hY : SuppM B i j Y) :
    SuppM B i j (X + Y) := by
  intro a b h; simp [Matrix.add_apply, hX a b h, hY a b h]

theorem SuppM.neg {i j : Nat} {X : MatK K B} (hX : SuppM B i j X) : SuppM B i j (-X) := by
  intro a b h; simp [Matrix.neg_apply, hX a b h]

theorem SuppM.sub {i j : Nat} {X Y : MatK K B} (hX : SuppM B i j X) (hY : SuppM B i j Y) :
    SuppM B i j (X - Y) := by
  intro a b h; simp [Matrix.sub_apply, hX a b h, hY a b h]

theorem SuppM.smul {i j : Nat} {X : MatK K B} (k : K) (hX : SuppM B i j X) : SuppM B i j (k • X) := by
  intro a b h; simp [Matrix.smul_apply, hX a b h]

theorem SuppM.mul {i m j : Nat} {X Y : MatK K B} (hX : SuppM B i m X) (hY : SuppM B m j Y) :
    SuppM B i j (X * Y) := by
  intro a b h
  rw [Matrix.mul_apply]
  refine Finset.sum_eq_zero fun c _ => ?_
  by_cases h1 : B.blk a.val = i
  · rw [hY c b (fun hh => h ⟨h1, hh.2⟩), mul_zero]
  · rw [hX a c (fun hh => h1 hh.1), zero_mul]

theorem SuppM.blockId (i : Nat) : SuppM B i i (blockId B i : MatK K B) := by
  intro a b h
  by_cases hab : a = b
  · subst hab
    rw [Dsl.blockId, Matrix.diagonal_apply_eq]
    exact if_neg fun hb => h ⟨hb, hb⟩
  · exact Matrix.diagonal_apply_ne _ hab

theorem blockId_mul {i j : Nat} {X : MatK K B} (h : SuppM B i j X) : blockId B i * X = X := by
  funext a b
  simp only [blockId, Matrix.diagonal_mul]
  split
  · rw [one_mul]
  · rename_i hne
    rw [zero_mul, h a b (fun hh => hne hh.1)]

theorem mul_blockId {i j : Nat} {X : MatK K B} (h : SuppM B i j X) : X * blockId B j = X := by
  funext a b
  simp only [blockId, Matrix.mul_diagonal]
  split
  · rw [mul_one]
  · rename_i hne
    rw [mul_zero, h a b (fun hh => hne hh.2)]

end

theorem sem_suppM {idx : Idx} {v : SVal K} (h : Supp B idx v) : SuppM B idx.i idx.j (sem B idx v) := by
  cases v with
  | zero => exact SuppM.zero
  | one => exact (show idx.i = idx.j from h) ▸ SuppM.blockId idx.i
  | val m => exact fun a b hn => h.2 a.val b.val a.isLt b.isLt hn

theorem supp_val {idx : Idx} {m : Mat K} (hd : m.d = B.d)
    (h : SuppM B idx.i idx.j (Mat.toMatrix B.d m)) : Supp B idx (.val m) :=
  ⟨hd, fun a b ha hb hn => h ⟨a, ha⟩ ⟨b, hb⟩ hn⟩

theorem Supp.means {idx : Idx} {v : SVal K} (h : Supp B idx v) : Means B idx v (sem B idx v) := ⟨h, rfl⟩

theorem sem_zero_of_isZeroS {idx : Idx} {v : SVal K} (h : v.isZeroS = true) : sem B idx v = 0 := by
  cases v with
  | zero => rfl
  | one | val m => cases h

theorem Means.vadd {idx : Idx} {x y w : SVal K} {X Y : MatK K B} (hx : Means B idx x X)
    (hy : Means B idx y Y) (h : Dsl.vadd x y = .ok w) : Means B idx w (X + Y) := by
  obtain ⟨hx, rfl⟩ := hx
  obtain ⟨hy, rfl⟩ := hy
  cases x with
  | zero => cases h; exact ⟨hy, (zero_add _).symm⟩
  | one =>
    cases y with
    | zero => cases h; exact ⟨hx, (add_zero _).symm⟩
    | one | val b => cases h
  | val a =>
    cases y with
    | zero => cases h; exact ⟨hx, (add_zero _).symm⟩
    | one => cases h
    | val b =>
      cases h
      have e := Mat.toMatrix_add hx.1 b
      exact ⟨supp_val hx.1 (e ▸ (sem_suppM hx).add (sem_suppM hy)), e⟩

theorem Means.vneg {idx : Idx} {x w : SVal K} {X : MatK K B} (hx : Means B idx x X)
    (h : Dsl.vneg x = .ok w) : Means B idx w (-X) := by
  obtain ⟨hx, rfl⟩ := hx
  cases x with
  | zero => cases h; exact ⟨trivial, neg_zero.symm⟩
  | one => cases h
  | val a =>
    cases h
    have e := Mat.toMatrix_neg hx.1
    exact ⟨supp_val hx.1 (e ▸ (sem_suppM hx).neg), e⟩

theorem Means.vdiv {idx : Idx} {x w : SVal K} {k : Int} {X : MatK K B} (hx : Means B idx x X)
    (h : Dsl.vdiv x k = .ok w) : Means B idx w (((k : K)⁻¹) • X) := by
  obtain ⟨hx, rfl⟩ := hx
  cases x with
  | zero => cases h; exact ⟨trivial, (smul_zero _).symm⟩
  | one => cases h
  | val a =>
    cases h
    have e := Mat.toMatrix_divInt hx.1 k
    exact ⟨supp_val hx.1 (e ▸ (sem_suppM hx).smul _), e⟩

theorem Means.vadj {idx : Idx} {x : SVal K} {X : MatK K B} (hx : Means B idx.swap x X) :
    Means B idx (Dsl.vadj x) X.conjTranspose := by
  obtain ⟨hx, rfl⟩ := hx
  cases x
  case zero => exact ⟨trivial, Matrix.conjTranspose_zero.symm⟩
  case one =>
    have hji : idx.j = idx.i := hx
    exact ⟨hji.symm, by simp only [sem, Dsl.vadj, Idx.swap, blockId_conjTranspose, hji]⟩
  case val a =>
    have e := Mat.toMatrix_adj hx.1
    exact ⟨supp_val hx.1 (e ▸ (sem_suppM hx).conjTranspose), e⟩

theorem Means.vsub {idx : Idx} {x y w : SVal K} {X Y : MatK K B} (hx : Means B idx x X)
    (hy : Means B idx y Y) (h : Dsl.vsub x y = .ok w) : Means B idx w (X - Y) := by
  simp only [Dsl.vsub, bind, Except.bind] at h
  split at h
  · cases h
  · rename_i y' hy'
    exact sub_eq_add_neg X Y ▸ hx.vadd (hy.vneg hy') h

theorem Means.markerVal {idx : Idx} {anti : Bool} {acc v r : SVal K} {A V : MatK K B}
    (hacc : Means B idx acc A) (hv : Means B idx.swap v V) (h : Dsl.markerVal anti acc v = .ok r) :
    Means B idx r (A + if anti then -V.conjTranspose else V.conjTranspose) := by
  simp only [Dsl.markerVal, bind, Except.bind] at h
  cases anti
  · exact hacc.vadd hv.vadj h
  · simp only [↓reduceIte] at h
    split at h
    · cases h
    · rename_i v' hv'
      exact hacc.vadd (hv.vadj.vneg hv') h

theorem Means.vmul {i m j : Nat} {n na nb : List Nat} {l r : SVal K} {L R : MatK K B}
    (hl : Means B ⟨i, m, na⟩ l L) (hr : Means B ⟨m, j, nb⟩ r R) (hlz : l.isZeroS = false)
    (hrz : r.isZeroS = false) : Means B ⟨i, j, n⟩ (Dsl.vmul l r) (L * R) := by
  obtain ⟨hl, rfl⟩ := hl
  obtain ⟨hr, rfl⟩ := hr
  have sl := sem_suppM hl
  have sr := sem_suppM hr
  cases l with
  | zero => cases hlz
  | one =>
    obtain rfl : i = m := hl
    cases r with
    | zero => cases hrz
    | one | val b => exact ⟨hr, (blockId_mul sr).symm⟩
  | val a =>
    cases r with
    | zero => cases hrz
    | one =>
      obtain rfl : m = j := hr
      exact ⟨hl, (mul_blockId sl).symm⟩
    | val b =>
      have e := Mat.toMatrix_mul hl.1 b
      exact ⟨supp_val hl.1 (e ▸ sl.mul sr), e⟩

def SuppJ (B : Blocks) : J K → SVal K → Prop
  | .elem _ idx, v => Supp B idx v
  | .expr _ idx, v => Supp B idx v
  | .body _ idx _ acc, v => Supp B idx acc → Supp B idx v
  | .pairs _ _ idx _ acc, v => Supp B idx acc → Supp B idx v

theorem startVal_supp {env : Env K} (he : EnvOK B env) {st : Start} {idx : Idx} {v : SVal K}
    (h : startVal env st idx = some v) : Supp B idx v := by
  simp only [startVal] at h
  split at h
  · cases st with
    | none => cases h
    | zero => cases h; trivial
    | one =>
      simp only at h
      split at h
      · rename_i hij; cases h; show idx.i = idx.j; simpa using hij
      · cases h
    | input x => cases h; exact he.input _ _
  · cases h

/-- support is the first half of `Means`, so each value operation is looked up there -/
theorem Holds.supp {p : Prog} {env : Env K} (he : EnvOK B env) {j : J K} {v : SVal K}
    (h : Holds p env j v) : SuppJ B j v := by
  induction h with
  | ser _ ih => exact ih
  | adj _ ih => exact (Supp.means ih).vadj.1
  | neg _ hv ih => exact ((Supp.means ih).vneg hv).1
  | add _ _ hv iha ihb => exact ((Supp.means iha).vadd (Supp.means ihb) hv).1
  | sub _ _ hv iha ihb => exact ((Supp.means iha).vsub (Supp.means ihb) hv).1
  | divInt _ hv ih => exact ((Supp.means ih).vdiv hv).1
  | callSer hv => exact he.fnSer _ _ _ _ hv
  | callExpr _ hv ih => exact he.fnVal _ _ _ _ ih hv
  | zero => trivial
  | iteT _ _ ih => exact ih
  | iteF _ _ ih => exact ih
  | bnil => exact fun h => h
  | markerHit _ _ hv ih => exact fun hacc => (hacc.means.markerVal (Supp.means ih) hv).1
  | markerMiss _ _ ih => exact ih
  | lowerHit _ _ hv ih => exact fun hacc => (hacc.means.vadd (Supp.means ih) hv).1
  | lowerMiss _ _ ih => exact ih
  | diagHit _ _ hv _ ihe ihb =>
    exact fun hacc => ihb (hacc.means.vadd (he.diag _ _ ihe).means hv).1
  | diagMiss _ _ ih => exact ih
  | offHit _ _ hv _ ihe ihb => exact fun hacc => ihb (hacc.means.vadd (Supp.means ihe) hv).1
  | offWrap _ hod _ hv _ ihe ihb =>
    exact fun hacc => ihb (hacc.means.vadd (he.offdiag _ _ _ hod ihe).means hv).1
  | offSkip _ _ _ ih => exact ih
  | default _ hv _ ihe ihb => exact fun hacc => ihb (hacc.means.vadd (Supp.means ihe) hv).1
  | pnil => exact fun h => h
  | leftZero _ _ _ _ _ ihr => exact ihr
  | leftThenRightZero _ _ _ _ _ _ _ _ ihr => exact ihr
  | rightZero _ _ _ _ _ ihr => exact ihr
  | rightThenLeftZero _ _ _ _ _ _ _ _ ihr => exact ihr
  | both _ hz _ hzr hv _ ihl ihrr ihr =>
    exact fun hacc => ihr (hacc.means.vadd ((Supp.means ihl).vmul (Supp.means ihrr) hz hzr) hv).1
  | input _ => exact he.input _ _
  | pinned _ hs => exact startVal_supp he hs
  | body _ _ _ ih => exact ih trivial
  | product _ _ ih => exact ih trivial

end Dsl
end Pyma

#print axioms Pyma.Dsl.Holds.supp
