/-
C06 (implicit mode), the carrier map and the solver obligation.  The implicit carrier holds the blocks of the explicit problem conjugated by an isometry
`E = 1_A ⊕ R_B` (`R_B`: the eigenvectors of the implicit subspace, never computed by the code): `Φ X = E X Eᴴ`, an intertwiner for `sem_natural`.  The
solver obligation is discharged in the form the implementation can meet: *any* `V'` in the range of the projector `Π = E Eᴴ`, supported on block `(i,j)`,
that solves the Sylvester equation with the projected `H_0` for the embedded right-hand side is the embedding of the explicit solution; the direct solver
returns such a `V'` (`Greens.direct_solve`).
-/
import PymaVerif.Proofs.SemNatural

namespace Pyma
namespace Dsl

section
variable {K : Type} [Field K] [StarRing K] {B B' : Blocks}

def isoM (E : Matrix (Fin B'.d) (Fin B.d) K) : MatK K B →+ MatK K B' where
  toFun X := E * X * E.conjTranspose
  map_zero' := by simp
  map_add' X Y := by simp [Matrix.mul_add, Matrix.add_mul]

theorem isoM_def (E : Matrix (Fin B'.d) (Fin B.d) K) (X : MatK K B) :
    isoM E X = E * X * E.conjTranspose := rfl

structure Isometry (E : Matrix (Fin B'.d) (Fin B.d) K) : Prop where
  iso : E.conjTranspose * E = 1
  blk : ∀ (a' : Fin B'.d) (a : Fin B.d), E a' a ≠ 0 → B'.blk a'.val = B.blk a.val

omit [StarRing K] in
theorem sandwich_mul {m n : Type} [Fintype m] [Fintype n] [DecidableEq n] {L : Matrix m n K} {R : Matrix n m K} (h : R * L = 1)
    (X Y : Matrix n n K) : L * (X * Y) * R = L * X * R * (L * Y * R) := by
  rw [Matrix.mul_assoc (L * X) R, ← Matrix.mul_assoc R, ← Matrix.mul_assoc R, h, Matrix.one_mul]
  simp only [Matrix.mul_assoc]

variable {E : Matrix (Fin B'.d) (Fin B.d) K}

theorem isoM_mul (hE : Isometry E) (X Y : MatK K B) : isoM E (X * Y) = isoM E X * isoM E Y :=
  sandwich_mul hE.iso X Y

theorem isoM_adj (X : MatK K B) : isoM E X.conjTranspose = (isoM E X).conjTranspose := by
  simp only [isoM_def, Matrix.conjTranspose_mul, Matrix.conjTranspose_conjTranspose, Matrix.mul_assoc]

theorem isoM_smul (k : K) (X : MatK K B) : isoM E (k • X) = k • isoM E X := by
  simp only [isoM_def, Matrix.mul_smul, Matrix.smul_mul]

theorem isoM_back (hE : Isometry E) (X : MatK K B) : E.conjTranspose * isoM E X * E = X := by
  simp only [isoM_def]
  calc E.conjTranspose * (E * X * E.conjTranspose) * E
      = (E.conjTranspose * E) * X * (E.conjTranspose * E) := by simp only [Matrix.mul_assoc]
    _ = X := by rw [hE.iso]; simp

theorem isoM_injective (hE : Isometry E) : Function.Injective (isoM E : MatK K B → MatK K B') := by
  intro X Y h
  rw [← isoM_back hE X, ← isoM_back hE Y, h]

def proj (E : Matrix (Fin B'.d) (Fin B.d) K) : MatK K B' := E * E.conjTranspose

theorem eq_isoM_of_range (V' : MatK K B') (h : proj E * V' * proj E = V') :
    V' = isoM E (E.conjTranspose * V' * E) := by
  rw [isoM_def]
  conv_lhs => rw [← h]
  simp only [proj, Matrix.mul_assoc]

omit [StarRing K] in
theorem suppM_sandwich {L : Matrix (Fin B'.d) (Fin B.d) K} {R : Matrix (Fin B.d) (Fin B'.d) K}
    (hL : ∀ a' a, L a' a ≠ 0 → B'.blk a'.val = B.blk a.val) (hR : ∀ b b', R b b' ≠ 0 → B'.blk b'.val = B.blk b.val)
    {i j : Nat} {X : MatK K B} (hX : SuppM B i j X) : SuppM B' i j (L * X * R) := by
  intro a' b' hn
  rw [Matrix.mul_apply]
  apply Finset.sum_eq_zero
  intro b _
  by_cases hb : R b b' = 0
  · rw [hb, mul_zero]
  · rw [Matrix.mul_apply]
    have : ∑ a, L a' a * X a b = 0 := by
      apply Finset.sum_eq_zero
      intro a _
      by_cases ha : L a' a = 0
      · rw [ha, zero_mul]
      · rw [hX a b (fun hh => hn ⟨(hL a' a ha).trans hh.1, (hR b b' hb).trans hh.2⟩), mul_zero]
    rw [this, zero_mul]

theorem back_supp (hE : Isometry E) {i j : Nat} {V' : MatK K B'} (hV : SuppM B' i j V') :
    SuppM B i j (E.conjTranspose * V' * E) :=
  suppM_sandwich (fun a a' h => (hE.blk a' a fun h0 => h (by simp [h0])).symm) (fun b' b h => (hE.blk b' b h).symm) hV

omit [StarRing K] in
theorem sylvester_unique (en : Fin B.d → K) (i j : Nat)
    (hsep : ∀ a b : Fin B.d, B.blk a.val = i → B.blk b.val = j → en a ≠ en b)
    (D : MatK K B) (hD : SuppM B i j D)
    (h : Matrix.diagonal en * D - D * Matrix.diagonal en = 0) : D = 0 := by
  funext a b
  by_cases hab : B.blk a.val = i ∧ B.blk b.val = j
  · have := congrFun (congrFun h a) b
    simp only [Matrix.sub_apply, Matrix.diagonal_mul, Matrix.mul_diagonal, Matrix.zero_apply] at this
    have h2 : (en a - en b) * D a b = 0 := by
      rw [sub_mul, mul_comm (en b)]
      exact this
    rcases mul_eq_zero.mp h2 with h3 | h3
    · exact absurd (sub_eq_zero.mp h3) (hsep a b hab.1 hab.2)
    · exact h3
  · exact hD a b hab

theorem proj_idem (hE : Isometry E) : proj E * proj E = proj E := by
  simp only [proj]
  calc E * E.conjTranspose * (E * E.conjTranspose) = E * (E.conjTranspose * E) * E.conjTranspose := by simp only [Matrix.mul_assoc]
    _ = E * E.conjTranspose := by rw [hE.iso, Matrix.mul_one]

/-- The direct solver never forms the projected `H_0`: it solves with the *ambient* Hamiltonian `A'` (the operator the user supplied), which commutes with
the projector (the explicit vectors are eigenvectors) and whose compression is the embedded `H_0`.  Its solution in the range of the projector then has the
form `ImplicitSpec.solver_off` asks for. -/
theorem ambient_to_projected (hE : Isometry E) (A' V' Y' H0' : MatK K B') (hcomm : proj E * A' = A' * proj E)
    (hcomp : proj E * A' * proj E = H0') (hrange : proj E * V' * proj E = V') (hamb : A' * V' - V' * A' = Y') :
    H0' * V' - V' * H0' = Y' := by
  have hPV : proj E * V' = V' := by
    conv_lhs => rw [← hrange]
    rw [← Matrix.mul_assoc, ← Matrix.mul_assoc, proj_idem hE, hrange]
  have hVP : V' * proj E = V' := by
    conv_lhs => rw [← hrange]
    rw [Matrix.mul_assoc, proj_idem hE, hrange]
  have h1 : H0' * V' = A' * V' := by
    rw [← hcomp, Matrix.mul_assoc, hPV, hcomm, Matrix.mul_assoc, hPV]
  have h2 : V' * H0' = V' * A' := by
    rw [← hcomp, ← Matrix.mul_assoc, ← Matrix.mul_assoc, hVP, Matrix.mul_assoc, ← hcomm, ← Matrix.mul_assoc, hVP]
  rw [h1, h2, hamb]

end

section
variable {K : Type} [Field K] [StarRing K] [DecidableEq K] [Thresholds K] {B B' : Blocks} {E : Matrix (Fin B'.d) (Fin B.d) K}

theorem isoM_supp (hE : Isometry E) {i j : Nat} {X : MatK K B} (hX : SuppM B i j X) :
    SuppM B' i j (isoM E X) :=
  suppM_sandwich hE.blk (fun b b' h => hE.blk b' b fun h0 => h (by simp [h0])) hX

/-- **C06, solver obligation**: a solution of the projected Sylvester equation in the range of the
projector, supported on the block pair, is the embedded explicit solution. -/
theorem sylvester_embedded_unique (hE : Isometry E) (en : Fin B.d → K) (i j : Nat)
    (hsep : ∀ a b : Fin B.d, B.blk a.val = i → B.blk b.val = j → en a ≠ en b)
    (Y V : MatK K B) (hV : SuppM B i j V)
    (hVeq : Matrix.diagonal en * V - V * Matrix.diagonal en = Y)
    (V' : MatK K B') (hrange : proj E * V' * proj E = V') (hsupp : SuppM B' i j V')
    (heq : isoM E (Matrix.diagonal en) * V' - V' * isoM E (Matrix.diagonal en) = isoM E Y) :
    V' = isoM E V := by
  obtain ⟨W, hWs, hV'⟩ : ∃ W, SuppM B i j W ∧ V' = isoM E W := ⟨_, back_supp hE hsupp, eq_isoM_of_range V' hrange⟩
  have hWeq : Matrix.diagonal en * W - W * Matrix.diagonal en = Y := by
    apply isoM_injective hE
    rw [map_sub, isoM_mul hE, isoM_mul hE, ← hV']
    exact heq
  have hD : W - V = 0 := by
    apply sylvester_unique en i j hsep (W - V) (hWs.sub hV)
    rw [Matrix.mul_sub, Matrix.sub_mul, sub_sub_sub_comm, hWeq, hVeq, sub_self]
  rw [hV', sub_eq_zero.mp hD]

end

end Dsl
end Pyma
#print axioms Pyma.Dsl.sylvester_embedded_unique
