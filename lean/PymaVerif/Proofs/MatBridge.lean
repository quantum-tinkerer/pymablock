/-
Bridge between the executable model and Mathlib: a field with involution as a `Scalar` (the magnitude
tests stay a parameter, `Thresholds`), and array matrices as Mathlib's `Matrix` (`Mat.toMatrix`, with
one lemma per array operation).
-/
import PymaVerif.Model.Mat
import Mathlib.Algebra.BigOperators.Fin
import Mathlib.LinearAlgebra.Matrix.ConjTranspose

namespace Pyma

class Thresholds (K : Type) where
  absGt : K → Rat → Bool
  absLt : K → Rat → Bool
  isClose : K → K → Bool

@[reducible] def Scalar.ofField (K : Type) [Field K] [StarRing K] [DecidableEq K] [Thresholds K] :
    Scalar K where
  conj := star
  divInt := fun x k => x / (k : K)
  absGt := Thresholds.absGt
  absLt := Thresholds.absLt
  isClose := Thresholds.isClose

namespace BlockDiag.Problem

/-- what the magnitude tests must satisfy -/
class LawfulThresholds (K : Type) [Field K] [Thresholds K] : Prop where
  absGt_neg : ∀ (x : K) (t : Rat), Thresholds.absGt (-x) t = Thresholds.absGt x t
  absGt_ne : ∀ (x : K) (t : Rat), 0 ≤ t → Thresholds.absGt x t = true → x ≠ 0

end BlockDiag.Problem

namespace Mat

section basic
variable {K : Type} [Scalar K]

theorem get_ofFn {d : Nat} (f : Nat → Nat → K) {a b : Nat} (ha : a < d) (hb : b < d) :
    (ofFn d f).get a b = f a b := by
  have hlt : a * d + b < d * d :=
    calc a * d + b < a * d + d := Nat.add_lt_add_left hb _
      _ = (a + 1) * d := (Nat.succ_mul a d).symm
      _ ≤ d * d := Nat.mul_le_mul_right d ha
  simp only [get, ofFn]
  rw [Array.getD_eq_getD_getElem?, Array.getElem?_ofFn]
  simp only [hlt, ↓reduceDIte, Option.getD_some]
  have hd : 0 < d := by omega
  have h1 : (a * d + b) / d = a := by
    rw [Nat.add_comm, Nat.add_mul_div_right _ _ hd, Nat.div_eq_of_lt hb, Nat.zero_add]
  have h2 : (a * d + b) % d = b := by
    rw [Nat.add_comm, Nat.add_mul_mod_self_right, Nat.mod_eq_of_lt hb]
  rw [h1, h2]

theorem d_ofFn {d : Nat} (f : Nat → Nat → K) : (ofFn d f).d = d := rfl

end basic

section field
variable {K : Type} [Field K] [StarRing K] [DecidableEq K] [Thresholds K]

attribute [local instance] Scalar.ofField

def toMatrix (d : Nat) (m : Mat K) : Matrix (Fin d) (Fin d) K := fun a b => m.get a.val b.val

theorem toMatrix_ofFn (d : Nat) (f : Nat → Nat → K) :
    toMatrix d (ofFn d f) = fun a b => f a.val b.val := by
  funext a b
  exact get_ofFn f a.isLt b.isLt

theorem isZero_get {m : Mat K} (hz : m.isZero = true) (a b : Nat) : m.get a b = 0 := by
  simp only [isZero, Array.all_eq_true, beq_iff_eq] at hz
  simp only [get, Array.getD_eq_getD_getElem?]
  by_cases hlt : a * m.d + b < m.data.size
  · simp [Array.getElem?_eq_getElem hlt, hz _ hlt]
  · simp [Array.getElem?_eq_none (Nat.le_of_not_lt hlt)]

theorem toMatrix_add {d : Nat} {x : Mat K} (hx : x.d = d) (y : Mat K) :
    toMatrix d (add x y) = toMatrix d x + toMatrix d y := by
  subst hx
  simp only [add, toMatrix_ofFn]
  rfl

theorem toMatrix_neg {d : Nat} {x : Mat K} (hx : x.d = d) :
    toMatrix d (neg x) = -toMatrix d x := by
  subst hx
  simp only [neg, toMatrix_ofFn]
  rfl

theorem toMatrix_divInt {d : Nat} {x : Mat K} (hx : x.d = d) (k : Int) :
    toMatrix d (divInt x k) = ((k : K)⁻¹) • toMatrix d x := by
  subst hx
  simp only [divInt, toMatrix_ofFn]
  funext a b
  show x.get a.val b.val / (k : K) = (k : K)⁻¹ * x.get a.val b.val
  rw [div_eq_mul_inv, mul_comm]

omit [StarRing K] [DecidableEq K] [Thresholds K] in
theorem foldl_range_eq_sum (d : Nat) (g : Nat → K) :
    (List.range d).foldl (fun acc c => acc + g c) 0 = ∑ c : Fin d, g c.val := by
  induction d with
  | zero => rfl
  | succ n ih =>
    rw [List.range_succ, List.foldl_append, ih, Fin.sum_univ_castSucc]
    rfl

theorem toMatrix_mul {d : Nat} {x : Mat K} (hx : x.d = d) (y : Mat K) :
    toMatrix d (mul x y) = toMatrix d x * toMatrix d y := by
  subst hx
  simp only [mul, toMatrix_ofFn]
  funext a b
  rw [foldl_range_eq_sum, Matrix.mul_apply]
  rfl

theorem toMatrix_adj {d : Nat} {x : Mat K} (hx : x.d = d) :
    toMatrix d (adj x) = (toMatrix d x).conjTranspose := by
  subst hx
  simp only [adj, toMatrix_ofFn]
  rfl

end field
end Mat
end Pyma
