/-
The Taylor expansion of `_sympy_to_BlockSeries` returns the coefficients of a polynomial input: for every multi-order `n`,
`term c n = c n` — in particular the *mixed* coefficients `x^a y^b` come with `1/(a! b!)`, not `1/(a+b)!`.
-/
import PymaVerif.Model.Taylor
import Mathlib.Data.Nat.Choose.Basic
import Mathlib.Algebra.Field.Rat

namespace Pyma
namespace Taylor

/-- `∏ⱼ C(xⱼ + yⱼ, yⱼ)` -/
def chooseProd : List Nat → List Nat → ℚ
  | x :: xs, y :: ys => (Nat.choose (x + y) y : ℚ) * chooseProd xs ys
  | _, _ => 1

/-- `x + y`, entry by entry -/
def addL : List Nat → List Nat → List Nat
  | x :: xs, y :: ys => (x + y) :: addL xs ys
  | _, _ => []

theorem firstNonzero_eq_none : ∀ {n : List Nat}, firstNonzero n = none → n = List.replicate n.length 0
  | [], _ => rfl
  | x :: xs, h => by
    unfold firstNonzero at h
    by_cases hx : x = 0
    · subst hx
      simp only [bne_self_eq_false, Bool.false_eq_true, ↓reduceIte, Option.map_eq_none_iff] at h
      rw [List.length_cons, List.replicate_succ, ← firstNonzero_eq_none h]
    · simp [hx] at h

theorem firstNonzero_ne_zero : ∀ {n : List Nat} {i : Nat}, firstNonzero n = some i → n.getD i 0 ≠ 0
  | x :: xs, i, h => by
    unfold firstNonzero at h
    split at h
    · cases h; exact bne_iff_ne.mp ‹_›
    · obtain ⟨j, hj, rfl⟩ := Option.map_eq_some_iff.mp h
      exact firstNonzero_ne_zero (n := xs) hj

theorem chooseProd_zero_right : ∀ (m : List Nat) (k : Nat), chooseProd m (List.replicate k 0) = 1
  | [], _ => by rw [chooseProd]; nofun
  | x :: xs, 0 => rfl
  | x :: xs, k + 1 => by simp [List.replicate_succ, chooseProd, chooseProd_zero_right xs k]

theorem addL_zero_right : ∀ (m : List Nat), addL m (List.replicate m.length 0) = m
  | [] => rfl
  | x :: xs => by simp [List.replicate_succ, addL, addL_zero_right xs]

theorem chooseProd_zero_left : ∀ (n : List Nat), chooseProd (List.replicate n.length 0) n = 1
  | [] => rfl
  | x :: xs => by simp [List.replicate_succ, chooseProd, chooseProd_zero_left xs]

theorem addL_zero_left : ∀ (n : List Nat), addL (List.replicate n.length 0) n = n
  | [] => rfl
  | x :: xs => by simp [List.replicate_succ, addL, addL_zero_left xs]

theorem choose_step (m n : ℕ) : (m + 1) * (m + 1 + n).choose n = (n + 1) * (m + (n + 1)).choose (n + 1) := by
  have key := Nat.choose_succ_right_eq (m + 1 + n) n
  rw [Nat.add_sub_cancel] at key
  rw [Nat.mul_comm, ← key, Nat.mul_comm, Nat.add_right_comm, Nat.add_assoc]

/-- one step of `deriv`: a unit of the direction `i` moves from `n` to `m` -/
theorem bump_lower : ∀ (n m : List Nat) (i : Nat), n.length = m.length → n.getD i 0 ≠ 0 →
    ((m.getD i 0 + 1 : ℕ) : ℚ) * chooseProd (bump m i) (lower n i) = (n.getD i 0 : ℚ) * chooseProd m n ∧
    addL (bump m i) (lower n i) = addL m n ∧ (lower n i).sum + 1 = n.sum
  | [], _, _, _, h => by simp at h
  | _ :: _, [], _, hl, _ => by simp at hl
  -- (`0 :: xs` at `i = 0` contradicts `n_i ≠ 0`; the pattern compiler dismisses it)
  | (x + 1) :: xs, y :: ys, 0, _, _ => by
    simp only [bump, lower, List.getD_cons_zero, List.set_cons_zero, chooseProd, addL, List.sum_cons, Nat.add_sub_cancel]
    refine ⟨?_, ?_, ?_⟩
    · rw [← mul_assoc, ← mul_assoc, ← Nat.cast_mul, ← Nat.cast_mul, choose_step]
    · rw [Nat.add_right_comm, Nat.add_assoc]
    · rw [Nat.add_right_comm]
  | x :: xs, y :: ys, i + 1, hl, h => by
    obtain ⟨h1, h2, h3⟩ := bump_lower xs ys i (Nat.succ.inj hl) h
    simp only [bump, lower, List.getD_cons_succ, List.set_cons_succ, chooseProd, addL, List.sum_cons] at h1 h2 h3 ⊢
    exact ⟨by rw [mul_left_comm, h1, mul_left_comm], by rw [h2], by rw [Nat.add_assoc, h3]⟩

/-- every normalised derivative: coefficient of `x^m` in `D(n)` is `∏ C(m_j+n_j, n_j) · c(m + n)` -/
theorem deriv_coeff (c : Coef) : ∀ (fuel : Nat) (n m : List Nat), n.length = m.length → n.sum ≤ fuel →
    deriv c fuel n m = chooseProd m n * c (addL m n)
  | fuel, n, m, hl, hs => by
    cases hf : firstNonzero n with
    | none =>
      have hd : deriv c fuel n = c := by cases fuel <;> simp only [deriv, hf]
      rw [hd, firstNonzero_eq_none hf, hl, chooseProd_zero_right, addL_zero_right, one_mul]
    | some i =>
      have hi := firstNonzero_ne_zero hf
      obtain ⟨h1, h2, h3⟩ := bump_lower n m i hl hi
      -- (`match`, not `cases`: the recursion on `fuel` stays structural through it)
      match fuel, hs with
      | 0, hs => omega
      | fuel + 1, hs =>
        simp only [deriv, hf, pderiv]
        rw [deriv_coeff c fuel (lower n i) (bump m i) (by rw [lower, bump, List.length_set, List.length_set, hl]) (by omega), h2,
          ← mul_assoc, h1, mul_assoc, mul_div_cancel_left₀ _ (Nat.cast_ne_zero.mpr hi)]

theorem term_eq_coeff (c : Coef) (n : List Nat) : term c n = c n := by
  unfold term
  rw [deriv_coeff c n.sum n (List.replicate n.length 0) (by simp) (le_refl _), chooseProd_zero_left, addL_zero_left, one_mul]

example : term (ofMonomials [([1, 1], 5), ([2, 1], 7), ([0, 0], 1)]) [1, 1] = 5 := by
  rw [term_eq_coeff]; decide +kernel

end Taylor
end Pyma
