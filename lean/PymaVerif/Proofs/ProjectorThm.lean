/-
C17: the complement projector equals the dense matrix `1 - R L†` under every operation.
-/
import PymaVerif.Model.Projector
import PymaVerif.Proofs.MatBridge
import PymaVerif.Proofs.GreensThm

namespace Pyma
namespace Projector

variable {K : Type} [Field K] [StarRing K] [DecidableEq K] [Thresholds K]
attribute [local instance] Scalar.ofField

variable {n m : Nat} (P : Proj K n m)

def Rm : Matrix (Fin n) (Fin m) K := fun a c => P.R a.val c.val
def Lm : Matrix (Fin n) (Fin m) K := fun a c => P.L a.val c.val

def dense : Matrix (Fin n) (Fin n) K := 1 - Rm P * (Lm P).conjTranspose

theorem sumRange_eq (k : Nat) (f : Nat → K) : sumRange k f = ∑ c : Fin k, f c.val :=
  Mat.foldl_range_eq_sum k f

theorem apply_eq (v : Fin n → K) (a : Fin n) :
    apply P (fun b => if h : b < n then v ⟨b, h⟩ else 0) a.val = (dense P).mulVec v a := by
  -- `(1 - R L†) v = v - R (L† v)`, which is how `_apply` computes it: the two sides are the same sums
  rw [dense, Matrix.sub_mulVec, Matrix.one_mulVec, ← Matrix.mulVec_mulVec]
  simp only [apply, sumRange_eq, Pi.sub_apply, Matrix.mulVec, dotProduct, dif_pos (Fin.is_lt _)]
  rfl

omit [DecidableEq K] [Thresholds K] in
theorem dense_adjoint : dense (adjoint P) = (dense P).conjTranspose := by
  simp only [dense, Matrix.conjTranspose_sub, Matrix.conjTranspose_one, Matrix.conjTranspose_mul,
    Matrix.conjTranspose_conjTranspose]
  rfl

theorem applyLeft_eq (v : Fin n → K) (a : Fin n) :
    applyLeft P (fun b => if h : b < n then v ⟨b, h⟩ else 0) a.val
      = (dense P).conjTranspose.mulVec v a := by
  rw [← dense_adjoint]
  exact apply_eq (adjoint P) v a

theorem Rm_conjugate : Rm (conjugate P) = (Rm P).map star := rfl
theorem Lm_conjugate : Lm (conjugate P) = (Lm P).map star := rfl

theorem dense_conjugate : dense (conjugate P) = (dense P).map star := by
  ext a b
  simp only [dense, Rm_conjugate, Lm_conjugate, Matrix.sub_apply, Matrix.map_apply, star_sub,
    Matrix.mul_apply, Matrix.conjTranspose_apply, star_sum, star_mul', star_star]
  congr 1
  simp only [Matrix.one_apply]
  split <;> simp

theorem dense_transpose : dense (transpose P) = (dense P).transpose := by
  unfold transpose
  rw [dense_adjoint, dense_conjugate]
  ext a b
  simp only [Matrix.conjTranspose_apply, Matrix.map_apply, star_star, Matrix.transpose_apply]

omit [DecidableEq K] [Thresholds K] in
theorem dense_idempotent (h : (Lm P).conjTranspose * Rm P = 1) : dense P * dense P = dense P :=
  (Greens.complement_proj h).1

end Projector
end Pyma
#print axioms Pyma.Projector.applyLeft_eq
#print axioms Pyma.Projector.dense_idempotent
