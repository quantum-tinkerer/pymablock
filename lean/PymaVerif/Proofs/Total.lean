/-
Totality of the relational semantics from a decidable certificate: if a program passes `Cert.ok`
(a static dependency check with two rank functions, one for order zero and one for the other
orders) and the environment's primitives are total on non-`one` values, then every element of
every listed name has a derivation.  Core Lean only.
-/
import PymaVerif.Proofs.DslDen

namespace Pyma
namespace Dsl

variable {K : Type} [Scalar K]

def deg (n : List Nat) : Nat := n.sum

theorem isOrderZero_iff {idx : Idx} : idx.isOrderZero = true ↔ deg idx.n = 0 := by
  simp only [Idx.isOrderZero, deg, List.all_eq_true, beq_iff_eq, List.sum_eq_zero_iff_forall_eq_nat]

theorem splits_deg {n a b : List Nat} (h : (a, b) ∈ splits n) : deg a + deg b = deg n := by
  unfold deg
  induction n generalizing a b with
  | nil => simp [splits] at h; simp [h.1, h.2]
  | cons x xs ih =>
    simp only [splits, List.mem_flatMap, List.mem_range, List.mem_map, Prod.exists, Prod.mk.injEq] at h
    obtain ⟨k, hk, as, bs, hm, rfl, rfl⟩ := h
    have := ih hm
    simp only [List.sum_cons]; omega

theorem foldl_cost (l : List Nat) (acc : Nat) :
    l.foldl (fun acc x => acc * (x+1) * (x+1)) acc = acc * cost l := by
  unfold cost
  induction l generalizing acc with
  | nil => simp
  | cons x xs ih =>
    simp only [List.foldl_cons]
    rw [ih, ih (1 * (x+1) * (x+1))]
    simp [Nat.mul_assoc]

theorem cost_cons (x : Nat) (xs : List Nat) : cost (x :: xs) = (x+1) * (x+1) * cost xs := by
  show List.foldl _ _ _ = _
  simp only [List.foldl_cons]
  rw [foldl_cost]; simp

theorem cost_pos (n : List Nat) : 1 ≤ cost n := by
  induction n with
  | nil => simp [cost]
  | cons x xs ih => rw [cost_cons]; exact Nat.mul_pos (Nat.mul_pos (by omega) (by omega)) ih

/-- an order has the least cost exactly when it is zero: this is what lets the cheaper-factor-first
rule of `evalPairs` skip every pair with an order-zero factor -/
theorem cost_eq_one_iff {n : List Nat} : cost n = 1 ↔ deg n = 0 := by
  induction n with
  | nil => simp [cost, deg]
  | cons x xs ih =>
    rw [cost_cons]
    simp only [deg, List.sum_cons] at ih ⊢
    constructor
    · intro h
      have hx := Nat.eq_one_of_mul_eq_one_right (Nat.eq_one_of_mul_eq_one_right h)
      have := ih.mp (Nat.eq_one_of_mul_eq_one_left h)
      omega
    · intro h
      obtain rfl : x = 0 := by omega
      rw [ih.mpr (by omega)]

theorem vadd_tot {x y : SVal K} (hx : x ≠ .one) (hy : y ≠ .one) :
    ∃ w, vadd x y = .ok w ∧ w ≠ .one ∧ (x = .zero → y = .zero → w = .zero) := by
  cases x with
  | zero => exact ⟨y, rfl, hy, fun _ h => h⟩
  | one => exact absurd rfl hx
  | val a =>
    cases y with
    | zero => exact ⟨.val a, rfl, hx, nofun⟩
    | one => exact absurd rfl hy
    | val b => exact ⟨.val (a.add b), rfl, nofun, nofun⟩

theorem vneg_tot {x : SVal K} (hx : x ≠ .one) :
    ∃ w, vneg x = .ok w ∧ w ≠ .one ∧ (x = .zero → w = .zero) := by
  cases x <;> simp_all [vneg, pure, Except.pure]

theorem vsub_tot {x y : SVal K} (hx : x ≠ .one) (hy : y ≠ .one) :
    ∃ w, vsub x y = .ok w ∧ w ≠ .one ∧ (x = .zero → y = .zero → w = .zero) := by
  obtain ⟨y', h1, h2, h3⟩ := vneg_tot hy
  obtain ⟨w, h4, h5, h6⟩ := vadd_tot hx h2
  refine ⟨w, ?_, h5, fun a b => h6 a (h3 b)⟩
  simp [vsub, h1, h4, bind, Except.bind]

theorem vdiv_tot {x : SVal K} (k : Int) (hx : x ≠ .one) :
    ∃ w, vdiv x k = .ok w ∧ w ≠ .one ∧ (x = .zero → w = .zero) := by
  cases x <;> simp_all [vdiv, pure, Except.pure]

theorem vadj_ne_one {x : SVal K} (hx : x ≠ .one) : vadj x ≠ .one := by
  cases x <;> simp_all [vadj]

theorem vmul_ne_one {x y : SVal K} (hx : x ≠ .one) (hy : y ≠ .one) : vmul x y ≠ .one := by
  cases x <;> cases y <;> simp_all [vmul]

theorem markerVal_tot {anti : Bool} {acc v : SVal K} (ha : acc ≠ .one) (hv : v ≠ .one) :
    ∃ w, markerVal anti acc v = .ok w ∧ w ≠ .one := by
  have hv' := vadj_ne_one hv
  cases anti
  · obtain ⟨w, h1, h2, _⟩ := vadd_tot ha hv'
    exact ⟨w, by simp [markerVal, h1, bind, Except.bind, pure, Except.pure], h2⟩
  · obtain ⟨v', h0, h0', _⟩ := vneg_tot hv'
    obtain ⟨w, h1, h2, _⟩ := vadd_tot ha h0'
    exact ⟨w, by simp [markerVal, h0, h1, bind, Except.bind], h2⟩

structure Cert where
  names : List String
  inputs : List String
  fns : List String
  rank0 : String → Nat
  rankT : String → Nat
  z0 : String → Bool
  one : String → Bool

namespace Cert
variable (c : Cert)

def rk (z : Bool) (x : String) : Nat := if z then c.rank0 x else c.rankT x

def refOK (z : Bool) (r : Nat) (y : String) : Bool :=
  c.names.contains y && !c.one y && decide (c.rk z y < r)

def exprOK (z : Bool) (r : Nat) : Expr → Bool
  | .ser y => c.refOK z r y
  | .adj y => c.refOK z r y
  | .neg e => exprOK z r e
  | .add a b => exprOK z r a && exprOK z r b
  | .sub a b => exprOK z r a && exprOK z r b
  | .divInt e _ => exprOK z r e
  | .callSer _ _ => false
  | .callExpr f e => c.fns.contains f && exprOK z r e
  | .zero => true
  | .ite _ t e => exprOK z r t && exprOK z r e

/-- expressions that evaluate to the `zero` sentinel when all their references do -/
def exprZ : Expr → Bool
  | .ser y => c.z0 y
  | .adj y => c.z0 y
  | .neg e => exprZ e
  | .add a b => exprZ a && exprZ b
  | .sub a b => exprZ a && exprZ b
  | .divInt e _ => exprZ e
  | .callSer _ _ => false
  | .callExpr _ _ => false
  | .zero => true
  | .ite _ t e => exprZ t && exprZ e

def stmtOK (z : Bool) (r : Nat) : Stmt → Bool
  | .marker _ => true
  | .clause _ e => c.exprOK z r e

def hasMarker : List Stmt → Bool
  | [] => false
  | .marker _ :: _ => true
  | _ :: rest => hasMarker rest

def pinned0 : Start → Bool
  | .zero => true
  | .input _ => true
  | _ => false

def z0Body : List Stmt → Bool
  | [.clause .default e] => c.exprZ e
  | _ => false

def seriesOK (d : SeriesDef) : Bool :=
  d.body.all (c.stmtOK false (c.rankT d.name)) &&
  (pinned0 d.start || d.body.all (c.stmtOK true (c.rank0 d.name))) &&
  (c.one d.name == (d.start == .one)) &&
  (!(hasMarker d.body) || !(c.one d.name)) &&
  (!(c.z0 d.name) || d.start == .zero || (d.start == .none && c.z0Body d.body))

def productOK (x a b : String) : Bool :=
  c.names.contains a && c.names.contains b && !c.one a && !c.one b && c.z0 a && c.z0 b &&
  decide (c.rank0 a < c.rank0 x) && !c.one x

def nameOK (p : Prog) (x : String) : Bool :=
  match kindI p c.inputs x with
  | .input => !c.one x && !c.z0 x
  | .series d => d.name == x && c.seriesOK d
  | .product a b => c.productOK x a b
  | .unknown => false

def ok (p : Prog) : Bool := c.names.all (c.nameOK p)

theorem refOK_iff {z : Bool} {r : Nat} {y : String} :
    c.refOK z r y = true ↔ y ∈ c.names ∧ c.one y = false ∧ c.rk z y < r := by
  simp only [refOK, Bool.and_eq_true, List.contains_iff_mem, Bool.not_eq_true', decide_eq_true_eq,
    and_assoc]

theorem productOK_iff {x a b : String} :
    c.productOK x a b = true ↔ a ∈ c.names ∧ b ∈ c.names ∧ c.one a = false ∧ c.one b = false ∧
      c.z0 a = true ∧ c.z0 b = true ∧ c.rank0 a < c.rank0 x ∧ c.one x = false := by
  simp only [productOK, Bool.and_eq_true, List.contains_iff_mem, Bool.not_eq_true',
    decide_eq_true_eq, and_assoc]

end Cert

structure EnvTot (c : Cert) (env : Env K) : Prop where
  inputs : env.inputs = c.inputs
  input_ne : ∀ h idx, env.input h idx ≠ .one
  fn_tot : ∀ f, c.fns.contains f = true → ∀ v idx, v ≠ .one → ∃ w, env.fn f (.inr v) idx = .ok w ∧ w ≠ .one
  diag_ne : ∀ v idx, v ≠ .one → env.diag v idx ≠ .one
  offdiag_ne : ∀ od, env.offdiag = some od → ∀ v idx, v ≠ .one → od v idx ≠ .one

section
variable {p : Prog} {env : Env K} {c : Cert}

def Goal (p : Prog) (env : Env K) (c : Cert) (x : String) (idx : Idx) : Prop :=
  ∃ v, Den p env x idx v ∧ (c.one x = false → v ≠ .one) ∧
    (c.z0 x = true → idx.isOrderZero = true → v = .zero)

omit [Scalar K] in
theorem kindOf_eq_kindI (he : env.inputs = c.inputs) (x : String) :
    kindOf p env x = kindI p c.inputs x := by
  unfold kindOf kindI; rw [he]

theorem swap_isOrderZero (idx : Idx) : idx.swap.isOrderZero = idx.isOrderZero := rfl

theorem expr_total (he : EnvTot c env) {z : Bool} {r : Nat} {idx : Idx}
    (hrefs : ∀ y, c.refOK z r y = true → ∀ idx' : Idx, idx'.n = idx.n → Goal p env c y idx') :
    ∀ e, c.exprOK z r e = true →
      ∃ v, DenE p env e idx v ∧ v ≠ .one ∧ (c.exprZ e = true → idx.isOrderZero = true → v = .zero) := by
  intro e
  induction e with
  | ser y =>
    intro h
    obtain ⟨v, hd, h1, h2⟩ := hrefs y h idx rfl
    exact ⟨v, .ser hd, h1 (c.refOK_iff.mp h).2.1, fun hz => h2 hz⟩
  | adj y =>
    intro h
    obtain ⟨v, hd, h1, h2⟩ := hrefs y h idx.swap rfl
    refine ⟨vadj v, .adj hd, vadj_ne_one (h1 (c.refOK_iff.mp h).2.1), fun hz ho => ?_⟩
    rw [h2 hz (by rw [swap_isOrderZero]; exact ho)]; rfl
  | neg e ih =>
    intro h
    obtain ⟨v, hd, h1, h2⟩ := ih h
    obtain ⟨w, hw, hw1, hw2⟩ := vneg_tot h1
    exact ⟨w, .neg hd hw, hw1, fun hz ho => hw2 (h2 hz ho)⟩
  | add a b iha ihb =>
    intro h
    simp only [Cert.exprOK, Bool.and_eq_true] at h
    obtain ⟨x, hx, hx1, hx2⟩ := iha h.1
    obtain ⟨y, hy, hy1, hy2⟩ := ihb h.2
    obtain ⟨w, hw, hw1, hw2⟩ := vadd_tot hx1 hy1
    refine ⟨w, .add hx hy hw, hw1, fun hz ho => ?_⟩
    simp only [Cert.exprZ, Bool.and_eq_true] at hz
    exact hw2 (hx2 hz.1 ho) (hy2 hz.2 ho)
  | sub a b iha ihb =>
    intro h
    simp only [Cert.exprOK, Bool.and_eq_true] at h
    obtain ⟨x, hx, hx1, hx2⟩ := iha h.1
    obtain ⟨y, hy, hy1, hy2⟩ := ihb h.2
    obtain ⟨w, hw, hw1, hw2⟩ := vsub_tot hx1 hy1
    refine ⟨w, .sub hx hy hw, hw1, fun hz ho => ?_⟩
    simp only [Cert.exprZ, Bool.and_eq_true] at hz
    exact hw2 (hx2 hz.1 ho) (hy2 hz.2 ho)
  | divInt e k ih =>
    intro h
    obtain ⟨v, hd, h1, h2⟩ := ih h
    obtain ⟨w, hw, hw1, hw2⟩ := vdiv_tot k h1
    exact ⟨w, .divInt hd hw, hw1, fun hz ho => hw2 (h2 hz ho)⟩
  | callSer f x => intro h; simp [Cert.exprOK] at h
  | callExpr f e ih =>
    intro h
    simp only [Cert.exprOK, Bool.and_eq_true] at h
    obtain ⟨v, hd, h1, _⟩ := ih h.2
    obtain ⟨w, hw, hw1⟩ := he.fn_tot f h.1 v idx h1
    exact ⟨w, .callExpr hd hw, hw1, fun hz => by simp [Cert.exprZ] at hz⟩
  | zero => intro _; exact ⟨.zero, .zero, by simp, fun _ _ => rfl⟩
  | ite fl t e iht ihe =>
    intro h
    simp only [Cert.exprOK, Bool.and_eq_true] at h
    cases hf : evalFlag env idx fl
    · obtain ⟨v, hd, h1, h2⟩ := ihe h.2
      refine ⟨v, .iteF hf hd, h1, fun hz ho => ?_⟩
      simp only [Cert.exprZ, Bool.and_eq_true] at hz
      exact h2 hz.2 ho
    · obtain ⟨v, hd, h1, h2⟩ := iht h.1
      refine ⟨v, .iteT hf hd, h1, fun hz ho => ?_⟩
      simp only [Cert.exprZ, Bool.and_eq_true] at hz
      exact h2 hz.1 ho

theorem body_total (he : EnvTot c env) {self : String} {idx : Idx}
    (hself : idx.i > idx.j → Goal p env c self idx.swap) :
    ∀ (stmts : List Stmt), (Cert.hasMarker stmts = true → c.one self = false) →
      (∀ cd e, Stmt.clause cd e ∈ stmts → ∃ v, DenE p env e idx v ∧ v ≠ .one) →
      ∀ acc : SVal K, acc ≠ .one → ∃ r, DenB p env self idx stmts acc r ∧ r ≠ .one := by
  intro stmts
  induction stmts with
  | nil => intro _ _ acc hacc; exact ⟨acc, .bnil, hacc⟩
  | cons s rest ih =>
    intro hone hE acc hacc
    have hrest : ∀ cd e, Stmt.clause cd e ∈ rest → ∃ v, DenE p env e idx v ∧ v ≠ .one :=
      fun cd e hm => hE cd e (List.mem_cons_of_mem _ hm)
    cases s with
    | marker anti =>
      by_cases hlow : idx.i > idx.j
      · obtain ⟨v, hv, hv1, _⟩ := hself hlow
        obtain ⟨w, hw, hw1⟩ := markerVal_tot (anti := anti) hacc (hv1 (hone rfl))
        exact ⟨w, .markerHit hlow hv hw, hw1⟩
      · obtain ⟨r, hr, hr1⟩ := ih (fun _ => hone rfl) hrest acc hacc
        exact ⟨r, .markerMiss hlow hr, hr1⟩
    | clause cd e =>
      obtain ⟨v, hv, hv1⟩ := hE cd e (List.mem_cons_self)
      have ih := ih (fun hm => hone hm)
      cases cd with
      | default =>
        obtain ⟨a', ha, ha1, _⟩ := vadd_tot hacc hv1
        obtain ⟨r, hr, hr1⟩ := ih hrest a' ha1
        exact ⟨r, .default hv ha hr, hr1⟩
      | diagonal =>
        cases hc : (idx.i == idx.j)
        · obtain ⟨r, hr, hr1⟩ := ih hrest acc hacc
          exact ⟨r, .diagMiss hc hr, hr1⟩
        · obtain ⟨a', ha, ha1, _⟩ := vadd_tot hacc (he.diag_ne v idx hv1)
          obtain ⟨r, hr, hr1⟩ := ih hrest a' ha1
          exact ⟨r, .diagHit hc hv ha hr, hr1⟩
      | offdiagonal =>
        cases hc : (idx.i != idx.j)
        · cases ho : env.offdiag with
          | none =>
            obtain ⟨r, hr, hr1⟩ := ih hrest acc hacc
            exact ⟨r, .offSkip hc ho hr, hr1⟩
          | some od =>
            obtain ⟨a', ha, ha1, _⟩ := vadd_tot hacc (he.offdiag_ne od ho v idx hv1)
            obtain ⟨r, hr, hr1⟩ := ih hrest a' ha1
            exact ⟨r, .offWrap hc ho hv ha hr, hr1⟩
        · obtain ⟨a', ha, ha1, _⟩ := vadd_tot hacc hv1
          obtain ⟨r, hr, hr1⟩ := ih hrest a' ha1
          exact ⟨r, .offHit hc hv ha hr, hr1⟩
      | lower =>
        by_cases hlow : idx.i > idx.j
        · obtain ⟨a', ha, ha1, _⟩ := vadd_tot hacc hv1
          exact ⟨a', .lowerHit hlow hv ha, ha1⟩
        · obtain ⟨r, hr, hr1⟩ := ih hrest acc hacc
          exact ⟨r, .lowerMiss hlow hr, hr1⟩

def PairOK (p : Prog) (env : Env K) (a b : String) (idx : Idx) (t : Nat × List Nat × List Nat) : Prop :=
  (cost t.2.1 ≤ cost t.2.2 ∧ Den p env a ⟨idx.i, t.1, t.2.1⟩ .zero) ∨
  (¬ cost t.2.1 ≤ cost t.2.2 ∧ Den p env b ⟨t.1, idx.j, t.2.2⟩ .zero) ∨
  (∃ l r, Den p env a ⟨idx.i, t.1, t.2.1⟩ l ∧ Den p env b ⟨t.1, idx.j, t.2.2⟩ r ∧ l ≠ .one ∧ r ≠ .one)

theorem pairs_total (a b : String) (idx : Idx) :
    ∀ (ps : List (Nat × List Nat × List Nat)), (∀ t ∈ ps, PairOK p env a b idx t) →
      ∀ acc : SVal K, acc ≠ .one → ∃ r, DenP p env a b idx ps acc r ∧ r ≠ .one := by
  intro ps
  induction ps with
  | nil => intro _ acc hacc; exact ⟨acc, .pnil, hacc⟩
  | cons t rest ih =>
    intro hps acc hacc
    have hrest := fun t ht => hps t (List.mem_cons_of_mem _ ht)
    obtain ⟨m, na, nb⟩ := t
    obtain ⟨r0, hr0, hr0'⟩ := ih hrest acc hacc
    rcases hps _ (List.mem_cons_self) with ⟨hc, hl⟩ | ⟨hc, hr⟩ | ⟨l, r, hl, hr, hl1, hr1⟩
    · exact ⟨r0, .leftZero hc hl rfl hr0, hr0'⟩
    · exact ⟨r0, .rightZero hc hr rfl hr0, hr0'⟩
    · by_cases hc : cost na ≤ cost nb
      · cases hlz : l.isZeroS
        · cases hrz : r.isZeroS
          · obtain ⟨a', ha, ha1, _⟩ := vadd_tot hacc (vmul_ne_one hl1 hr1)
            obtain ⟨r1, hr1', hr1''⟩ := ih hrest a' ha1
            exact ⟨r1, .both hl hlz hr hrz ha hr1', hr1''⟩
          · exact ⟨r0, .leftThenRightZero hc hl hlz hr hrz hr0, hr0'⟩
        · exact ⟨r0, .leftZero hc hl hlz hr0, hr0'⟩
      · cases hrz : r.isZeroS
        · cases hlz : l.isZeroS
          · obtain ⟨a', ha, ha1, _⟩ := vadd_tot hacc (vmul_ne_one hl1 hr1)
            obtain ⟨r1, hr1', hr1''⟩ := ih hrest a' ha1
            exact ⟨r1, .both hl hlz hr hrz ha hr1', hr1''⟩
          · exact ⟨r0, .rightThenLeftZero hc hr hrz hl hlz hr0, hr0'⟩
        · exact ⟨r0, .rightZero hc hr hrz hr0, hr0'⟩

theorem pairs_skip (a b : String) (idx : Idx) :
    ∀ (ps : List (Nat × List Nat × List Nat)),
      (∀ t ∈ ps, cost t.2.1 ≤ cost t.2.2 ∧ Den p env a ⟨idx.i, t.1, t.2.1⟩ .zero) →
      ∀ acc : SVal K, DenP p env a b idx ps acc acc := by
  intro ps
  induction ps with
  | nil => intro _ acc; exact .pnil
  | cons t rest ih =>
    intro hps acc
    obtain ⟨m, na, nb⟩ := t
    obtain ⟨hc, hl⟩ := hps _ (List.mem_cons_self)
    exact .leftZero hc hl rfl (ih (fun t ht => hps t (List.mem_cons_of_mem _ ht)) acc)

theorem mem_pairsOf {N : Nat} {n : List Nat} {t : Nat × List Nat × List Nat} (h : t ∈ pairsOf N n) :
    (t.2.1, t.2.2) ∈ splits n := by
  simp only [pairsOf, List.mem_flatMap, List.mem_range, List.mem_map, Prod.exists] at h
  obtain ⟨m, _, na, nb, hm, rfl⟩ := h
  exact hm

theorem z0Body_eq {c : Cert} {body : List Stmt} (h : c.z0Body body = true) :
    ∃ e, body = [.clause .default e] ∧ c.exprZ e = true := by
  unfold Cert.z0Body at h
  split at h
  · exact ⟨_, rfl, h⟩
  · simp at h

omit [Scalar K] in
theorem startVal_some {st : Start} {idx : Idx} {v : SVal K} (h : startVal env st idx = some v) :
    idx.isOrderZero = true ∧
      ((st = .zero ∧ v = .zero) ∨ (st = .one ∧ v = .one) ∨ (∃ x, st = .input x ∧ v = env.input x idx)) := by
  unfold startVal at h
  split at h
  · rename_i hz
    refine ⟨hz, ?_⟩
    cases st with
    | none => simp at h
    | zero => simp at h; exact Or.inl ⟨rfl, h.symm⟩
    | one =>
      simp only at h
      split at h
      · simp at h; exact Or.inr (Or.inl ⟨rfl, h.symm⟩)
      · simp at h
    | input x => simp at h; exact Or.inr (Or.inr ⟨x, rfl, h.symm⟩)
  · simp at h

omit [Scalar K] in
theorem startVal_none_pinned {st : Start} {idx : Idx} (h : startVal env st idx = none)
    (hz : idx.isOrderZero = true) : Cert.pinned0 st = false := by
  unfold startVal at h
  rw [if_pos hz] at h
  cases st <;> simp_all [Cert.pinned0]

theorem Cert.body_ok {d : SeriesDef} (h : c.seriesOK d = true) (idx : Idx)
    (hp : deg idx.n = 0 → Cert.pinned0 d.start = false) :
    d.body.all (c.stmtOK (decide (deg idx.n = 0)) (c.rk (decide (deg idx.n = 0)) d.name)) = true := by
  simp only [Cert.seriesOK, Bool.and_eq_true, Bool.or_eq_true] at h
  obtain ⟨⟨⟨⟨hT, h0⟩, _⟩, _⟩, _⟩ := h
  by_cases ht : deg idx.n = 0
  · simp only [ht, decide_true, Cert.rk, if_true]
    rcases h0 with h0 | h0
    · rw [hp ht] at h0; cases h0
    · exact h0
  · simp only [ht, decide_false, Cert.rk]; exact hT

/-- **Induction along a certificate**: the elements of the listed names in the order in which the
certificate lets them depend on each other — lower degree first, within a degree lower rank first,
and for a series the upper triangle before the lower one (the marker copies from the transposed
position). -/
theorem Cert.induct {P : String → Idx → Prop} (hc : c.ok p = true)
    (input : ∀ x ∈ c.names, kindI p c.inputs x = .input → c.one x = false → c.z0 x = false →
      ∀ idx, P x idx)
    (series : ∀ d, d.name ∈ c.names → kindI p c.inputs d.name = .series d → c.seriesOK d = true →
      ∀ idx : Idx,
        (∀ y, c.refOK (decide (deg idx.n = 0)) (c.rk (decide (deg idx.n = 0)) d.name) y = true →
          ∀ idx' : Idx, idx'.n = idx.n → P y idx') →
        (idx.i > idx.j → P d.name idx.swap) → P d.name idx)
    (product : ∀ x a b, x ∈ c.names → kindI p c.inputs x = .product a b → c.productOK x a b = true →
      ∀ idx : Idx, (∀ y ∈ c.names, ∀ idx' : Idx, deg idx'.n < deg idx.n → P y idx') →
        (deg idx.n = 0 → ∀ idx' : Idx, deg idx'.n = 0 → P a idx') → P x idx)
    (x : String) (hx : x ∈ c.names) (idx : Idx) : P x idx := by
  have hok : c.nameOK p x = true := List.all_eq_true.mp hc x hx
  unfold Cert.nameOK at hok
  split at hok
  · rename_i hk
    simp only [Bool.and_eq_true, Bool.not_eq_true'] at hok
    exact input x hx hk hok.1 hok.2 idx
  · rename_i d hk
    simp only [Bool.and_eq_true, beq_iff_eq] at hok
    obtain ⟨rfl, hs⟩ := hok
    refine series d hx hk hs idx (fun y hy idx' hn => ?_) fun hlow => ?_
    · have hy := c.refOK_iff.mp hy
      exact induct hc input series product y hy.1 idx'
    · exact induct hc input series product d.name hx idx.swap
  · rename_i a b hk
    have hab := c.productOK_iff.mp hok
    exact product x a b hx hk hok idx (fun y hy idx' hlt => induct hc input series product y hy idx')
      fun h0 idx' h0' => induct hc input series product a hab.1 idx'
  · simp at hok
termination_by (deg idx.n, c.rk (decide (deg idx.n = 0)) x, idx.i - idx.j)
decreasing_by
  · subst x; rw [hn]; exact .right _ (.left _ _ hy.2.2)
  · subst x; exact .right _ (.right _ (by show idx.j - idx.i < idx.i - idx.j; omega))
  · exact .left _ _ hlt
  · rw [h0, h0']; exact .right _ (.left _ _ hab.2.2.2.2.2.2.1)

/-- **Totality.**  A program that passes the certificate check has a derivation for every element of
every listed name, in every environment whose primitives are total. -/
theorem total (hc : c.ok p = true) (he : EnvTot c env) :
    ∀ t, ∀ x ∈ c.names, ∀ idx : Idx, deg idx.n = t → Goal p env c x idx := by
  intro t x hx idx _
  refine Cert.induct (P := Goal p env c) hc ?input ?series ?product x hx idx
  case input =>
    intro x _ hk hone hz idx
    exact ⟨env.input x idx, .input (by rw [kindOf_eq_kindI he.inputs]; exact hk),
      fun _ => he.input_ne _ _, fun h => by rw [hz] at h; cases h⟩
  case series =>
    intro d _ hk hs idx hrefs hsw
    have hk' : kindOf p env d.name = .series d := by rw [kindOf_eq_kindI he.inputs]; exact hk
    have hbody := c.body_ok hs idx
    simp only [Cert.seriesOK, Bool.and_eq_true, Bool.or_eq_true, beq_iff_eq, Bool.not_eq_true'] at hs
    obtain ⟨⟨⟨_, hone⟩, hmark⟩, hz0⟩ := hs
    cases hs : startVal env d.start idx with
    | some v =>
      obtain ⟨hoz, hcases⟩ := startVal_some hs
      refine ⟨v, .pinned hk' hs, ?_, ?_⟩
      · intro ho
        rcases hcases with ⟨_, rfl⟩ | ⟨hst, rfl⟩ | ⟨h, _, rfl⟩
        · simp
        · rw [ho, hst] at hone; simp at hone
        · exact he.input_ne _ _
      · intro hz _
        rcases hcases with ⟨_, rfl⟩ | ⟨hst, rfl⟩ | ⟨h, hst, rfl⟩
        · rfl
        · rw [hz, hst] at hz0; simp at hz0
        · rw [hz, hst] at hz0; simp at hz0
    | none =>
      have hstm := hbody fun h0 => startVal_none_pinned hs (isOrderZero_iff.mpr h0)
      have hE : ∀ cd e, Stmt.clause cd e ∈ d.body →
          ∃ v, DenE p env e idx v ∧ v ≠ .one ∧ (c.exprZ e = true → idx.isOrderZero = true → v = .zero) :=
        fun cd e hm => expr_total he hrefs e (List.all_eq_true.mp hstm _ hm)
      by_cases hzz : c.z0 d.name = true ∧ idx.isOrderZero = true
      · -- the value must be the `zero` sentinel
        rw [hzz.1] at hz0
        have hst : d.start = .none ∧ c.z0Body d.body = true := by
          rcases hz0 with (h | h) | h
          · simp at h
          · have := startVal_none_pinned hs hzz.2; rw [h] at this; simp [Cert.pinned0] at this
          · exact h
        obtain ⟨e, hbody, hez⟩ := z0Body_eq hst.2
        obtain ⟨v, hv, _, hv0⟩ := hE .default e (by rw [hbody]; simp)
        have hv0 := hv0 hez hzz.2
        subst hv0
        refine ⟨.zero, .body hk' hs ?_, fun _ => by simp, fun _ _ => rfl⟩
        rw [hbody]
        exact .default hv (by simp [vadd, pure, Except.pure]) .bnil
      · obtain ⟨rv, hr, hr1⟩ := body_total he hsw d.body
          (fun hm => hmark.resolve_left (by simp [hm]))
          (fun cd e hm => by obtain ⟨v, hv, hv1, _⟩ := hE cd e hm; exact ⟨v, hv, hv1⟩)
          .zero (by simp)
        exact ⟨rv, .body hk' hs hr, fun _ => hr1, fun h1 h2 => absurd ⟨h1, h2⟩ hzz⟩
  case product =>
    intro x a b _ hk hok idx lower same0
    have hk' : kindOf p env x = .product a b := by rw [kindOf_eq_kindI he.inputs]; exact hk
    obtain ⟨ha, hb, hoa, hob, hza, hzb, _, _⟩ := c.productOK_iff.mp hok
    have zero_of : ∀ {y} {idx' : Idx}, c.z0 y = true → deg idx'.n = 0 → Goal p env c y idx' →
        Den p env y idx' .zero := fun hz h0 ⟨v, hv, _, hv0⟩ => hv0 hz (isOrderZero_iff.mpr h0) ▸ hv
    by_cases ht : deg idx.n = 0
    · have hskip : ∀ tr ∈ pairsOf env.nblocks idx.n,
          cost tr.2.1 ≤ cost tr.2.2 ∧ Den p env a ⟨idx.i, tr.1, tr.2.1⟩ .zero := by
        intro tr htr
        have hsum := splits_deg (mem_pairsOf htr)
        have h1 : deg tr.2.1 = 0 := by omega
        have h2 : deg tr.2.2 = 0 := by omega
        exact ⟨by rw [cost_eq_one_iff.mpr h1, cost_eq_one_iff.mpr h2]; exact Nat.le_refl _,
          zero_of hza h1 (same0 ht _ h1)⟩
      exact ⟨.zero, .product hk' (pairs_skip a b idx _ hskip .zero), fun _ => by simp, fun _ _ => rfl⟩
    · have hpairs : ∀ tr ∈ pairsOf env.nblocks idx.n, PairOK p env a b idx tr := by
        intro tr htr
        have hsum := splits_deg (mem_pairsOf htr)
        by_cases h1 : deg tr.2.1 = 0
        · exact .inl ⟨by rw [cost_eq_one_iff.mpr h1]; exact cost_pos _,
            zero_of hza h1 (lower a ha ⟨idx.i, tr.1, tr.2.1⟩ (by simp only; omega))⟩
        · by_cases h2 : deg tr.2.2 = 0
          · exact .inr <| .inl ⟨by
              rw [cost_eq_one_iff.mpr h2]; have := cost_pos tr.2.1; have := mt cost_eq_one_iff.mp h1; omega,
              zero_of hzb h2 (lower b hb ⟨tr.1, idx.j, tr.2.2⟩ (by simp only; omega))⟩
          · obtain ⟨l, hl, hl1, _⟩ := lower a ha ⟨idx.i, tr.1, tr.2.1⟩ (by simp only; omega)
            obtain ⟨rr, hrr, hrr1, _⟩ := lower b hb ⟨tr.1, idx.j, tr.2.2⟩ (by simp only; omega)
            exact .inr <| .inr ⟨l, rr, hl, hrr, hl1 hoa, hrr1 hob⟩
      obtain ⟨rv, hr, hr1⟩ := pairs_total a b idx _ hpairs .zero (by simp)
      exact ⟨rv, .product hk' hr, fun _ => hr1, fun _ hoz => absurd (isOrderZero_iff.mp hoz) ht⟩

end

end Dsl
end Pyma
