/-
C08, the finite modes (spins, fermions without their sign).  Here the representation invariant of the
Python code is needed: the coefficient of a term does not depend on `N_i` when the term carries `c_i` or
`c_i†` (`Canon`), and states have occupation 0 or 1 on such modes (`Valid`).  With it `_multiply_op` on a finite
mode acts on one term as the generator does (`opTermF0_amp`), the steps of `__mul__` preserve the
invariant, and `_multiply_expr` evaluates its factor at the state (`ampS_exprTerm`).
-/
import PymaVerif.Proofs.NofBoson

namespace Pyma
namespace Nof
open Finset

/-- the fermionic sign `_multiply_op` attaches to a term -/
def fsign (c : Ctx) (i : Nat) (q : Int) (t : Term) : Bool :=
  let orig := pw t i
  let new := orig + q
  if c.kind i == .fermion then
    let idxs := List.range c.n
    let fermions := idxs.filter fun k => c.kind k == .fermion
    let preceding : Nat :=
      if orig == 1 || new == 1 then
        (fermions.filter fun k => k < i && pw t k == 1).length
      else
        (fermions.filter fun k => pw t k == 1).length +
        (idxs.filter fun k => k > i && pw t k == -1).length
    preceding % 2 == 1
  else false

/-- the term without its fermionic sign -/
def opTermF0 (i : Nat) (q : Int) (t : Term) : Option Term :=
  let orig := pw t i
  let new := orig + q
  if new.natAbs > 1 then none else
  let base : Occ → GRat :=
    if q == 1 then
      fun N => (if orig != 0 then ofInt (Occ.get N i) else 1) * t.coeff (Occ.set N i 0)
    else
      fun N => (if orig != 0 then ofInt (1 - Occ.get N i) else 1) * t.coeff (Occ.set N i 1)
  some { powers := setPw t i new, coeff := base }

def negIf (b : Bool) (t : Term) : Term := { t with coeff := fun N => if b then -(t.coeff N) else t.coeff N }

/-- the term `_multiply_op` produces on a spin/fermion mode -/
def opTermF (c : Ctx) (i : Nat) (q : Int) (t : Term) : Option Term :=
  (opTermF0 i q t).map (negIf (fsign c i q t))

theorem fsign_false {c : Ctx} {i : Nat} {q : Int} {t : Term} (h : ¬ c.kind i = .fermion) : fsign c i q t = false := by
  have : (c.kind i == Kind.fermion) = false := by simpa using h
  simp [fsign, this]

theorem negIf_false (t : Term) : negIf false t = t := rfl

theorem multiplyOp_fin {c : Ctx} {x : Form} {i : Nat} {q : Int} (h : c.isInf i = false) :
    multiplyOp c x i q = if q.natAbs > 1 then [] else x.filterMap (opTermF c i q) := by
  unfold multiplyOp
  rw [if_neg (by simp [h])]
  congr 2
  funext t
  unfold opTermF opTermF0
  by_cases hd : (pw t i + q).natAbs > 1
  · simp [hd]
  · simp only [hd, ↓reduceIte, Option.map_some, Option.some.injEq]
    rfl

theorem opTermF0_none {i : Nat} {q : Int} {t : Term} (h : (pw t i + q).natAbs > 1) : opTermF0 i q t = none := by
  simp [opTermF0, h]

theorem opTermF0_some {i : Nat} {q : Int} {t : Term} (h : ¬ (pw t i + q).natAbs > 1) :
    opTermF0 i q t = some { powers := setPw t i (pw t i + q), coeff := fun N =>
      if q == 1 then (if pw t i != 0 then ofInt (Occ.get N i) else 1) * t.coeff (Occ.set N i 0)
      else (if pw t i != 0 then ofInt (1 - Occ.get N i) else 1) * t.coeff (Occ.set N i 1) } := by
  simp only [opTermF0, h, ↓reduceIte, Option.some.injEq, Term.mk.injEq, true_and]
  funext N
  split <;> rfl

def Canon (c : Ctx) (t : Term) : Prop :=
  ∀ i, i < c.n → c.isInf i = false → pw t i ≠ 0 → ∀ (N : Occ) (v : Int), N.length = c.n →
    t.coeff (Occ.set N i v) = t.coeff N

def FinPow (c : Ctx) (t : Term) : Prop :=
  ∀ i, i < c.n → c.isInf i = false → pw t i = -1 ∨ pw t i = 0 ∨ pw t i = 1

theorem FinPow.pm_one {c : Ctx} {t : Term} (ht : FinPow c t) {i : Nat} (hi : i < c.n) (h0 : pw t i ≠ 0)
    (hfin : c.isInf i = false) : pw t i = 1 ∨ pw t i = -1 := by
  have := ht i hi hfin
  omega

structure WFT (c : Ctx) (t : Term) : Prop where
  len : t.powers.length = c.n
  fin : FinPow c t
  can : Canon c t

def WF2 (c : Ctx) (x : Form) : Prop := ∀ t ∈ x, WFT c t

structure Valid (c : Ctx) (s : Occ) : Prop where
  len : s.length = c.n
  bin : ∀ i, i < c.n → c.isInf i = false → Occ.get s i = 0 ∨ Occ.get s i = 1

theorem modeAmp_fin_ne_zero {c : Ctx} {i : Nat} {n p : Int} (hfin : c.isInf i = false) (hn : n = 0 ∨ n = 1)
    (hp : p = -1 ∨ p = 0 ∨ p = 1) (h : modeAmp c i n p ≠ 0) :
    (p = 1 → n = 1) ∧ (p = -1 → n = 0) ∧ (n - p = 0 ∨ n - p = 1) := by
  rw [modeAmp_fin hfin] at h
  rcases hp with rfl | rfl | rfl
  · rw [if_neg (by decide), if_pos (by decide)] at h
    omega
  · omega
  · rw [if_pos (by decide)] at h
    omega

theorem supp_of_annAmp_ne_zero {c : Ctx} {t : Term} {s : Occ} (hs : Valid c s) (hf : FinPow c t)
    (hz : annAmp c t s ≠ 0) (j : Nat) (hj : j < c.n) (hfin : c.isInf j = false) :
    (pw t j = 1 → Occ.get s j = 1) ∧ (pw t j = -1 → Occ.get s j = 0) ∧
      (Occ.get s j - pw t j = 0 ∨ Occ.get s j - pw t j = 1) :=
  modeAmp_fin_ne_zero hfin (hs.bin j hj hfin) (hf j hj hfin) ((Finset.prod_ne_zero_iff.mp hz) j (mem_range.mpr hj))

theorem valid_of_annAmp_ne_zero (c : Ctx) (t : Term) (s : Occ) (hs : Valid c s) (hf : FinPow c t)
    (h : annAmp c t s ≠ 0) : Valid c (tgt t s) := by
  refine ⟨by simp [hs.len], fun i hi hfin => ?_⟩
  rw [get_tgt hi hs.len]
  exact (supp_of_annAmp_ne_zero hs hf h i hi hfin).2.2

theorem valid_shift {c : Ctx} {s : Occ} {i : Nat} {r : Int} (hs : Valid c s) (hi : i < c.n)
    (hr : c.isInf i = false → r = -1 ∨ r = 0 ∨ r = 1) (hm : modeAmp c i (Occ.get s i) r ≠ 0) :
    Valid c (Occ.shift s i (-r)) := by
  refine ⟨by simp [hs.len], fun j hj hfin => ?_⟩
  rw [get_shift hi hs.len]
  by_cases hji : j = i
  · subst hji
    rw [if_pos rfl, ← sub_eq_add_neg]
    exact (modeAmp_fin_ne_zero hfin (hs.bin j hj hfin) (hr hfin) hm).2.2
  · rw [if_neg hji]; exact hs.bin j hj hfin

/-- the finite-mode step for a kept term: `c†f·c`, `f·c`, `f·c†`, `fc·c†`; only the last needs `Canon` -/
theorem finStep_amp {c : Ctx} {i : Nat} {q : Int} {t t' : Term} {s : Occ} (hi : i < c.n)
    (hfin : c.isInf i = false) (hq : q = 1 ∨ q = -1) (hs : s.length = c.n)
    (hn : Occ.get s i = 0 ∨ Occ.get s i = 1) (ht : t.powers.length = c.n)
    (hp : pw t i = -1 ∨ pw t i = 0 ∨ pw t i = 1) (hcan : Canon c t)
    (hkept : ¬ (pw t i + q).natAbs > 1) (hpow : t'.powers = setPw t i (pw t i + q))
    (hcoef : ∀ N, t'.coeff N =
      if q == 1 then (if pw t i != 0 then ofInt (Occ.get N i) else 1) * t.coeff (Occ.set N i 0)
      else (if pw t i != 0 then ofInt (1 - Occ.get N i) else 1) * t.coeff (Occ.set N i 1)) :
    specAmp c t' s = ofInt (modeAmp c i (Occ.get s i) q) * specAmp c t (Occ.shift s i (-q)) := by
  apply specAmp_of_powers hpow hi hs ht
  have hcanon := fun h v => hcan i hi hfin h (mid t' s) v (by rw [length_mid, hs])
  rw [mid_of_powers hpow hi hs ht, hcoef, get_mid hi hs, pw_of_powers hpow hi ht, if_pos rfl, modeAmp_fin hfin,
    modeAmp_fin hfin, modeAmp_fin hfin]
  generalize mid t' s = M at hcanon ⊢
  generalize Occ.get s i = n at hn ⊢
  generalize pw t i = p at hp hkept hcanon ⊢
  have hne : p ≠ q := by omega
  rcases hq with rfl | rfl
  · rcases hp with rfl | rfl | rfl
    · rcases hn with rfl | rfl <;> simp +decide [ofInt_zero, ofInt_one]
    · rcases hn with rfl | rfl <;> simp +decide [ofInt_zero]
    · exact absurd rfl hne
  · rcases hp with rfl | rfl | rfl
    · exact absurd rfl hne
    · rcases hn with rfl | rfl <;> simp +decide [ofInt_zero]
    · rcases hn with rfl | rfl <;> simp +decide [ofInt_zero, ofInt_one, hcanon]

theorem opTermF0_amp (c : Ctx) (i : Nat) (q : Int) (t : Term) (s s' : Occ) (hi : i < c.n)
    (hfin : c.isInf i = false) (hq : q = 1 ∨ q = -1)
    (hs : s.length = c.n) (hn : Occ.get s i = 0 ∨ Occ.get s i = 1)
    (ht : t.powers.length = c.n) (hp : pw t i = -1 ∨ pw t i = 0 ∨ pw t i = 1) (hcan : Canon c t) :
    (match opTermF0 i q t with
      | some t' => ampS c t' s s'
      | none => 0)
      = ofInt (modeAmp c i (Occ.get s i) q) * ampS c t (Occ.shift s i (-q)) s' := by
  by_cases hdrop : (pw t i + q).natAbs > 1
  · -- `c·c` and `c†·c†`: the term is dropped, and the operator vanishes on both occupations
    rw [opTermF0_none hdrop]
    simp only
    unfold ampS specAmp
    rw [annAmp_split c t _ hi, get_shift hi hs, if_pos rfl]
    have hz : modeAmp c i (Occ.get s i) q * modeAmp c i (Occ.get s i + -q) (pw t i) = 0 := by
      have : pw t i = q := by omega
      rw [modeAmp_fin hfin, modeAmp_fin hfin, this]
      rcases hq with rfl | rfl
      · -- `c·c`: `n · (n - 1)`
        rcases hn with h | h <;> simp [h]
      · -- `c†·c†`: `(1 - n) · (1 - (n + 1))`
        rcases hn with h | h <;> simp [h]
    split
    · rw [ofInt_mul, ← mul_assoc, ← mul_assoc, ← ofInt_mul, hz, ofInt_zero, zero_mul, zero_mul]
    · simp
  · rw [opTermF0_some hdrop]
    simp only
    unfold ampS
    rw [tgt_of_powers (t := t) rfl hi hs ht, finStep_amp hi hfin hq hs hn ht hp hcan hdrop rfl (fun _ => rfl)]
    split <;> simp

theorem wft_opTerm {c : Ctx} {i : Nat} {q : Int} {t : Term} (hi : i < c.n) (hinf : c.isInf i = true)
    (h : WFT c t) : WFT c (opTerm c i q t) := by
  have hne : ∀ j, c.isInf j = false → j ≠ i := fun j hfin e => by rw [e, hinf] at hfin; cases hfin
  refine ⟨List.length_set.trans h.len, ?_, ?_⟩
  · intro j hj hfin
    rw [pw_opTerm hi h.len, if_neg (hne j hfin)]
    exact h.fin j hj hfin
  · intro j hj hfin hpw N v hN
    rw [pw_opTerm hi h.len, if_neg (hne j hfin)] at hpw
    obtain ⟨F, hF, _⟩ := opTerm_coeff hi q t
    rw [hF _ (by simp [hN]), hF _ hN, shift_set_comm (hne j hfin).symm, h.can j hj hfin hpw _ _ (by simp [hN]),
      get_set_ne (hne j hfin).symm]

theorem wft_opTermF0 {c : Ctx} {i : Nat} {q : Int} {t t' : Term} (hi : i < c.n)
    (hq : q = 1 ∨ q = -1) (h : WFT c t) (ht' : opTermF0 i q t = some t') :
    WFT c t' := by
  have hkept : ¬ (pw t i + q).natAbs > 1 := fun hd => by rw [opTermF0_none hd] at ht'; cases ht'
  rw [opTermF0_some hkept, Option.some.injEq] at ht'
  subst ht'
  replace hkept : pw t i + q = -1 ∨ pw t i + q = 0 ∨ pw t i + q = 1 := by omega
  refine ⟨List.length_set.trans h.len, ?_, ?_⟩
  · intro j hj hfin
    rw [pw_of_powers (t := t) rfl hi h.len]
    by_cases hji : j = i
    · rw [if_pos hji]; exact hkept
    · rw [if_neg hji]; exact h.fin j hj hfin
  · intro j hj hfin hpw N v hN
    rw [pw_of_powers (t := t) rfl hi h.len] at hpw
    dsimp only
    by_cases hji : j = i
    · subst hji
      -- the new power is non-zero, so the old one was zero
      have hp0 : pw t j = 0 := by
        have := h.fin j hi hfin
        rw [if_pos rfl] at hpw; omega
      simp only [hp0, bne_self_eq_false, Bool.false_eq_true, ↓reduceIte, one_mul, set_set_same]
    · rw [if_neg hji] at hpw
      have hc := h.can j hj hfin hpw
      rw [get_set_ne (Ne.symm hji), set_set_comm hji, hc _ _ (by simp [hN]), set_set_comm hji, hc _ _ (by simp [hN])]

theorem wft_negIf {c : Ctx} {b : Bool} {t : Term} (h : WFT c t) : WFT c (negIf b t) := by
  refine ⟨h.len, h.fin, ?_⟩
  intro j hj hfin hp N v hN
  show (if b then -(t.coeff (Occ.set N j v)) else t.coeff (Occ.set N j v)) = (if b then -(t.coeff N) else t.coeff N)
  rw [h.can j hj hfin hp N v hN]

theorem wft_opTermF {c : Ctx} {i : Nat} {q : Int} {t t' : Term} (hi : i < c.n)
    (hq : q = 1 ∨ q = -1) (h : WFT c t) (ht' : opTermF c i q t = some t') : WFT c t' := by
  obtain ⟨t0, h0, rfl⟩ := Option.map_eq_some_iff.mp ht'
  exact wft_negIf (wft_opTermF0 hi hq h h0)

theorem natAbs_le_one_of {q : Int} (h : q = 1 ∨ q = -1) : ¬ q.natAbs > 1 := by
  rcases h with rfl | rfl <;> decide

theorem wf2_multiplyOp {c : Ctx} {x : Form} {i : Nat} {q : Int} (hi : i < c.n)
    (hq : c.isInf i = false → q = 1 ∨ q = -1) (h : WF2 c x) : WF2 c (multiplyOp c x i q) := by
  cases hinf : c.isInf i
  · rw [multiplyOp_fin hinf, if_neg (natAbs_le_one_of (hq hinf))]
    intro t' ht'
    obtain ⟨t, ht, hopt⟩ := List.mem_filterMap.mp ht'
    exact wft_opTermF hi (hq hinf) (h t ht) hopt
  · rw [multiplyOp_inf hinf]
    intro t' ht'
    obtain ⟨t, ht, rfl⟩ := List.mem_map.mp ht'
    exact wft_opTerm hi hinf (h t ht)

theorem wf2_step {c : Ctx} {x : Form} {i : Nat} {q : Int} {P : Prop} [Decidable P] (hi : i < c.n)
    (hq : P → c.isInf i = false → q = 1 ∨ q = -1) (h : WF2 c x) :
    WF2 c (if P then multiplyOp c x i q else x) := by
  split
  · exact wf2_multiplyOp hi (hq ‹_›) h
  · exact h

/-! `_multiply_expr` -/

def replStep (c : Ctx) (t : Term) (acc : Occ) (i : Nat) : Occ :=
  let p := pw t i
  if p == 0 then acc
  else if c.isInf i then (if p > 0 then Occ.shift acc i p else acc)
  else (if p < 0 then Occ.set acc i 0 else Occ.set acc i 1)

def replOcc (c : Ctx) (t : Term) (N : Occ) : Occ := (List.range c.n).foldl (replStep c t) N

def exprTerm (c : Ctx) (e : Occ → GRat) (t : Term) : Term :=
  { t with coeff := fun N => t.coeff N * e (replOcc c t N) }

theorem multiplyExpr_eq (c : Ctx) (x : Form) (e : Occ → GRat) : multiplyExpr c x e = x.map (exprTerm c e) := rfl

/-- the value `_multiply_expr` substitutes for the number operator of mode `j` -/
def replVal (c : Ctx) (t : Term) (j : Nat) (x : Int) : Int :=
  if pw t j = 0 then x
  else if c.isInf j then (if pw t j > 0 then x + pw t j else x)
  else (if pw t j < 0 then 0 else 1)

theorem replStep_eq (c : Ctx) (t : Term) (acc : Occ) (k : Nat) :
    replStep c t acc k = Occ.set acc k (replVal c t k (Occ.get acc k)) := by
  have hself : acc = Occ.set acc k (Occ.get acc k) := by
    rw [← add_zero (Occ.get acc k)]
    exact (shift_zero acc k).symm
  unfold replStep replVal
  by_cases hp0 : pw t k = 0
  · simpa only [hp0, beq_self_eq_true, ↓reduceIte] using hself
  · have hb : (pw t k == 0) = false := by simpa using hp0
    simp only [hb, Bool.false_eq_true, ↓reduceIte, hp0]
    cases c.isInf k
    · simp only [Bool.false_eq_true, ↓reduceIte]
      split <;> rfl
    · simp only [↓reduceIte]
      split
      · rfl
      · exact hself

theorem foldl_set (g : Nat → Int → Int) (k : Nat) (N : Occ) (hk : k ≤ N.length) :
    ((List.range k).foldl (fun acc i => Occ.set acc i (g i (Occ.get acc i))) N).length = N.length ∧
    ∀ j, Occ.get ((List.range k).foldl (fun acc i => Occ.set acc i (g i (Occ.get acc i))) N) j
      = if j < k then g j (Occ.get N j) else Occ.get N j := by
  induction k with
  | zero => exact ⟨rfl, by simp⟩
  | succ k ih =>
    obtain ⟨hl, hg⟩ := ih (by omega)
    rw [List.range_succ, List.foldl_append]
    simp only [List.foldl_cons, List.foldl_nil]
    refine ⟨by rw [length_set, hl], fun j => ?_⟩
    rw [get_set hk hl, hg k, if_neg (Nat.lt_irrefl k)]
    by_cases hjk : j = k
    · rw [hjk, if_pos rfl, if_pos (Nat.lt_succ_self k)]
    · rw [if_neg hjk, hg j]
      by_cases hj : j < k
      · rw [if_pos hj, if_pos (by omega)]
      · rw [if_neg hj, if_neg (by omega)]

theorem replOcc_eq (c : Ctx) (t : Term) (N : Occ) :
    replOcc c t N = (List.range c.n).foldl (fun acc i => Occ.set acc i (replVal c t i (Occ.get acc i))) N := by
  unfold replOcc
  congr
  funext acc i
  exact replStep_eq c t acc i

theorem get_replOcc {c : Ctx} {t : Term} {N : Occ} {j : Nat} (hj : j < c.n) (hN : N.length = c.n) :
    Occ.get (replOcc c t N) j = replVal c t j (Occ.get N j) := by
  rw [replOcc_eq, (foldl_set _ c.n N hN.ge).2 j, if_pos hj]

theorem length_replOcc {c : Ctx} {t : Term} {N : Occ} (hN : N.length = c.n) : (replOcc c t N).length = c.n :=
  (replOcc_eq c t N ▸ (foldl_set _ c.n N hN.ge).1).trans hN

/-- on the support of the monomial, `_multiply_expr` evaluates the right factor at the state itself -/
theorem replOcc_mid {c : Ctx} {t : Term} {s : Occ} (hs : Valid c s) (hfin : FinPow c t) (hz : annAmp c t s ≠ 0) :
    replOcc c t (mid t s) = s := by
  have hsupp := supp_of_annAmp_ne_zero hs hfin hz
  have hml : (mid t s).length = c.n := by simp [hs.len]
  refine occ_ext (length_replOcc hml) hs.len fun j hj' => ?_
  rw [get_replOcc hj' hml, get_mid hj' hs.len]
  unfold replVal
  by_cases hp0 : pw t j = 0
  · simp [hp0]
  · simp only [hp0, ↓reduceIte]
    cases hinf : c.isInf j
    · simp only [Bool.false_eq_true, ↓reduceIte]
      rcases hfin j hj' hinf with e | e | e
      · simp only [e]; norm_num; exact ((hsupp j hj' hinf).2.1 e).symm
      · exact absurd e hp0
      · simp only [e]; norm_num; exact ((hsupp j hj' hinf).1 e).symm
    · simp only [↓reduceIte]
      by_cases hpos : pw t j > 0
      · have : max (pw t j) 0 = pw t j := by omega
        simp [hpos, this]
      · have : max (pw t j) 0 = 0 := by omega
        simp [hpos, this]

theorem replOcc_set {c : Ctx} (t : Term) {N : Occ} {j : Nat} (hN : N.length = c.n)
    (hfin : c.isInf j = false) (hp : pw t j ≠ 0) (v : Int) :
    replOcc c t (Occ.set N j v) = replOcc c t N := by
  have hl : (Occ.set N j v).length = c.n := by simp [hN]
  refine occ_ext (length_replOcc hl) (length_replOcc hN) fun k hk => ?_
  rw [get_replOcc hk hl, get_replOcc hk hN]
  by_cases hkj : k = j
  · subst hkj
    simp [replVal, hp, hfin]
  · rw [get_set_ne hkj]

theorem wft_exprTerm {c : Ctx} {e : Occ → GRat} {t : Term} (h : WFT c t) : WFT c (exprTerm c e t) := by
  refine ⟨h.len, h.fin, ?_⟩
  intro j hj hfin hp N v hN
  show t.coeff (Occ.set N j v) * e (replOcc c t (Occ.set N j v)) = t.coeff N * e (replOcc c t N)
  rw [h.can j hj hfin hp N v hN, replOcc_set t hN hfin hp v]

theorem ampS_exprTerm {c : Ctx} {e : Occ → GRat} {t : Term} {s s' : Occ} (hw : WFT c t) (hs : Valid c s) :
    ampS c (exprTerm c e t) s s' = e s * ampS c t s s' := by
  by_cases hz : annAmp c t s = 0
  · rw [ampS_eq_zero hz, ampS_eq_zero (t := exprTerm c e t) hz, mul_zero]
  · show (if tgt t s = s' then ofInt (annAmp c t s) * (t.coeff (mid t s) * e (replOcc c t (mid t s))) else 0)
      = e s * (if tgt t s = s' then ofInt (annAmp c t s) * t.coeff (mid t s) else 0)
    rw [replOcc_mid hs hw.fin hz]
    split <;> ring

theorem wf2_multiplyExpr {c : Ctx} {x : Form} {e : Occ → GRat} (hx : WF2 c x) : WF2 c (multiplyExpr c x e) := by
  rw [multiplyExpr_eq]
  intro t' ht'
  obtain ⟨t, ht, rfl⟩ := List.mem_map.mp ht'
  exact wft_exprTerm (hx t ht)

end Nof
end Pyma
