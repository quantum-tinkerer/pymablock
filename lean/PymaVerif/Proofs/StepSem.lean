/-
The denotation as a (classical) function `den`, its matrix meaning `mat`, and the ring-level one-step
semantics of the mini-language: every derivable element satisfies it (`Den.sat`), a product element
being a plain Cauchy sum (`Holds.pairs_sem`) — for every program.  From here on, recursion, laziness,
sentinels and error handling are gone: what remains are plain matrix equations.
-/
import PymaVerif.Proofs.DslDet
import PymaVerif.Proofs.Sem

namespace Pyma
namespace Dsl

variable {K : Type} [Field K] [StarRing K] [DecidableEq K] [Thresholds K]
attribute [local instance] Scalar.ofField

open Classical in
noncomputable def den (p : Prog) (env : Env K) (x : String) (idx : Idx) : SVal K :=
  if h : ∃ v, Den p env x idx v then Classical.choose h else .zero

theorem den_eq {p : Prog} {env : Env K} {x : String} {idx : Idx} {v : SVal K}
    (h : Den p env x idx v) : den p env x idx = v := by
  have hex : ∃ v, Den p env x idx v := ⟨v, h⟩
  simp only [den, hex, ↓reduceDIte]
  exact Holds.det (Classical.choose_spec hex) _ h

theorem den_spec {p : Prog} {env : Env K} {x : String} {idx : Idx}
    (h : ∃ v, Den p env x idx v) : Den p env x idx (den p env x idx) := by
  obtain ⟨v, hv⟩ := h
  rw [den_eq hv]; exact hv

variable {B : Blocks}

noncomputable def mat (B : Blocks) (p : Prog) (env : Env K) (x : String) (idx : Idx) : MatK K B :=
  sem B idx (den p env x idx)

theorem Den.means {p : Prog} {env : Env K} (he : EnvOK B env) {x : String} {idx : Idx} {v : SVal K}
    (h : Den p env x idx v) : Means B idx v (mat B p env x idx) :=
  ⟨Holds.supp he h, by rw [mat, den_eq h]⟩

theorem mat_eq_zero {p : Prog} {env : Env K} {x : String} {idx : Idx} {v : SVal K}
    (h : Den p env x idx v) (hz : v.isZeroS = true) : mat B p env x idx = 0 := by
  rw [mat, den_eq h, sem_zero_of_isZeroS hz]

noncomputable def pairSum (B : Blocks) (p : Prog) (env : Env K) (a b : String) (i j : Nat)
    (ps : List (Nat × List Nat × List Nat)) : MatK K B :=
  (ps.map fun t => mat B p env a ⟨i, t.1, t.2.1⟩ * mat B p env b ⟨t.1, j, t.2.2⟩).sum

theorem pairSum_cons {p : Prog} {env : Env K} {a b : String} {i j : Nat}
    (t : Nat × List Nat × List Nat) (ps : List (Nat × List Nat × List Nat)) :
    pairSum B p env a b i j (t :: ps) =
      mat B p env a ⟨i, t.1, t.2.1⟩ * mat B p env b ⟨t.1, j, t.2.2⟩ + pairSum B p env a b i j ps :=
  rfl

def PairsJ (B : Blocks) (p : Prog) (env : Env K) : J K → SVal K → Prop
  | .pairs a b idx ps acc, r => Supp B idx acc →
      sem B idx r = sem B idx acc + pairSum B p env a b idx.i idx.j ps
  | _, _ => True

theorem Holds.pairs_sem {p : Prog} {env : Env K} (he : EnvOK B env) {j : J K} {v : SVal K}
    (h : Holds p env j v) : PairsJ B p env j v := by
  induction h with
  | pnil => exact fun _ => (add_zero _).symm
  | leftZero _ hl hz _ _ ihr =>
    exact fun hacc => by rw [ihr hacc, pairSum_cons, mat_eq_zero hl hz, zero_mul, zero_add]
  | leftThenRightZero _ _ _ hr hzr _ _ _ ihr =>
    exact fun hacc => by rw [ihr hacc, pairSum_cons, mat_eq_zero hr hzr, mul_zero, zero_add]
  | rightZero _ hr hzr _ _ ihr =>
    exact fun hacc => by rw [ihr hacc, pairSum_cons, mat_eq_zero hr hzr, mul_zero, zero_add]
  | rightThenLeftZero _ _ _ hl hz _ _ _ ihr =>
    exact fun hacc => by rw [ihr hacc, pairSum_cons, mat_eq_zero hl hz, zero_mul, zero_add]
  | @both a b idx m na nb rest acc acc' r l rr hl hz hr hzr hv _ _ _ ihr =>
    intro hacc
    obtain ⟨hacc', e⟩ := hacc.means.vadd ((Den.means he hl).vmul (n := idx.n) (Den.means he hr) hz hzr) hv
    rw [ihr hacc', e, pairSum_cons, add_assoc]
  | _ => trivial

/-- ring-level meaning of the scope of an environment -/
structure EnvSem (B : Blocks) (env : Env K) where
  fnVal : String → MatK K B → Idx → MatK K B
  fnSer : String → String → Idx → MatK K B
  diag : MatK K B → Idx → MatK K B
  offdiag : MatK K B → Idx → MatK K B
  fnVal_ok : ∀ f v idx w, Supp B idx v → env.fn f (.inr v) idx = .ok w →
    sem B idx w = fnVal f (sem B idx v) idx
  fnSer_ok : ∀ f x idx w, env.fn f (.inl x) idx = .ok w → sem B idx w = fnSer f x idx
  diag_ok : ∀ v idx, Supp B idx v → sem B idx (env.diag v idx) = diag (sem B idx v) idx
  offdiag_ok : ∀ od v idx, env.offdiag = some od → Supp B idx v →
    sem B idx (od v idx) = offdiag (sem B idx v) idx

variable {p : Prog} {env : Env K}

theorem Means.fnVal (he : EnvOK B env) (S : EnvSem B env) {f : String} {idx : Idx} {v w : SVal K}
    {V : MatK K B} (hv : Means B idx v V) (h : env.fn f (.inr v) idx = .ok w) :
    Means B idx w (S.fnVal f V idx) :=
  ⟨he.fnVal _ _ _ _ hv.1 h, by rw [S.fnVal_ok _ _ _ _ hv.1 h, hv.2]⟩

theorem Means.diag (he : EnvOK B env) (S : EnvSem B env) {idx : Idx} {v : SVal K} {V : MatK K B}
    (hv : Means B idx v V) : Means B idx (env.diag v idx) (S.diag V idx) :=
  ⟨he.diag _ _ hv.1, by rw [S.diag_ok _ _ hv.1, hv.2]⟩

theorem Means.offdiag (he : EnvOK B env) (S : EnvSem B env) {od : SVal K → Idx → SVal K}
    (hod : env.offdiag = some od) {idx : Idx} {v : SVal K} {V : MatK K B} (hv : Means B idx v V) :
    Means B idx (od v idx) (S.offdiag V idx) :=
  ⟨he.offdiag _ _ _ hod hv.1, by rw [S.offdiag_ok _ _ _ hod hv.1, hv.2]⟩

noncomputable def exprSem (S : EnvSem B env) (p : Prog) (idx : Idx) : Expr → MatK K B
  | .ser x => mat B p env x idx
  | .adj x => (mat B p env x idx.swap).conjTranspose
  | .neg e => -exprSem S p idx e
  | .add a b => exprSem S p idx a + exprSem S p idx b
  | .sub a b => exprSem S p idx a - exprSem S p idx b
  | .divInt e k => ((k : K)⁻¹) • exprSem S p idx e
  | .callSer f x => S.fnSer f x idx
  | .callExpr f e => S.fnVal f (exprSem S p idx e) idx
  | .zero => 0
  | .ite fl t e => if evalFlag env idx fl then exprSem S p idx t else exprSem S p idx e

noncomputable def bodySem (S : EnvSem B env) (p : Prog) (self : String) (idx : Idx) :
    List Stmt → MatK K B → MatK K B
  | [], acc => acc
  | .marker anti :: rest, acc =>
      if idx.i > idx.j then
        acc + (if anti then -(mat B p env self idx.swap).conjTranspose
               else (mat B p env self idx.swap).conjTranspose)
      else bodySem S p self idx rest acc
  | .clause .lower e :: rest, acc =>
      if idx.i > idx.j then acc + exprSem S p idx e else bodySem S p self idx rest acc
  | .clause .diagonal e :: rest, acc =>
      if (idx.i == idx.j) = true then bodySem S p self idx rest (acc + S.diag (exprSem S p idx e) idx)
      else bodySem S p self idx rest acc
  | .clause .offdiagonal e :: rest, acc =>
      if (idx.i != idx.j) = true then bodySem S p self idx rest (acc + exprSem S p idx e)
      else match env.offdiag with
        | some _ => bodySem S p self idx rest (acc + S.offdiag (exprSem S p idx e) idx)
        | none => bodySem S p self idx rest acc
  | .clause .default e :: rest, acc => bodySem S p self idx rest (acc + exprSem S p idx e)

noncomputable def elemSem (S : EnvSem B env) (p : Prog) (x : String) (idx : Idx) : MatK K B :=
  match kindOf p env x with
  | .input => sem B idx (env.input x idx)
  | .series d =>
      match startVal env d.start idx with
      | some v => sem B idx v
      | none => bodySem S p x idx d.body 0
  | .product a b => pairSum B p env a b idx.i idx.j (pairsOf env.nblocks idx.n)
  | .unknown => 0

def SatJ (S : EnvSem B env) (p : Prog) : J K → SVal K → Prop
  | .elem x idx, v => sem B idx v = elemSem S p x idx
  | .expr e idx, v => Means B idx v (exprSem S p idx e)
  | .body self idx stmts acc, r =>
      ∀ A, Means B idx acc A → Means B idx r (bodySem S p self idx stmts A)
  | .pairs _ _ _ _ _, _ => True

theorem Holds.sat (he : EnvOK B env) (S : EnvSem B env) {j : J K} {v : SVal K}
    (h : Holds p env j v) : SatJ S p j v := by
  induction h with
  | ser h _ => exact Den.means he h
  | adj h _ => exact (Den.means he h).vadj
  | neg _ hv ih => exact ih.vneg hv
  | add _ _ hv iha ihb => exact iha.vadd ihb hv
  | sub _ _ hv iha ihb => exact iha.vsub ihb hv
  | divInt _ hv ih => exact ih.vdiv hv
  | callSer hv => exact ⟨he.fnSer _ _ _ _ hv, S.fnSer_ok _ _ _ _ hv⟩
  | callExpr _ hv ih => exact ih.fnVal he S hv
  | zero => exact ⟨trivial, rfl⟩
  | iteT hf _ ih => simp only [SatJ, exprSem, hf, ↓reduceIte]; exact ih
  | iteF hf _ ih => simp only [SatJ, exprSem, hf, Bool.false_eq_true, ↓reduceIte]; exact ih
  | bnil => exact fun _ hacc => hacc
  | markerHit hgt hself hv _ =>
    intro A hacc
    simp only [bodySem, hgt, ↓reduceIte]
    exact hacc.markerVal (Den.means he hself) hv
  | markerMiss hn _ ih =>
    intro A hacc
    simp only [bodySem, hn, ↓reduceIte]
    exact ih A hacc
  | lowerHit hgt _ hv ih =>
    intro A hacc
    simp only [bodySem, hgt, ↓reduceIte]
    exact hacc.vadd ih hv
  | lowerMiss hn _ ih =>
    intro A hacc
    simp only [bodySem, hn, ↓reduceIte]
    exact ih A hacc
  | diagHit hc _ hv _ ihe ihb =>
    intro A hacc
    simp only [bodySem, hc, ↓reduceIte]
    exact ihb _ (hacc.vadd (ihe.diag he S) hv)
  | diagMiss hc _ ih =>
    intro A hacc
    simp only [bodySem, hc, Bool.false_eq_true, ↓reduceIte]
    exact ih A hacc
  | offHit hc _ hv _ ihe ihb =>
    intro A hacc
    simp only [bodySem, hc, ↓reduceIte]
    exact ihb _ (hacc.vadd ihe hv)
  | offWrap hc hod _ hv _ ihe ihb =>
    intro A hacc
    simp only [bodySem, hc, Bool.false_eq_true, ↓reduceIte, hod]
    exact ihb _ (hacc.vadd (ihe.offdiag he S hod) hv)
  | offSkip hc hod _ ih =>
    intro A hacc
    simp only [bodySem, hc, Bool.false_eq_true, ↓reduceIte, hod]
    exact ih A hacc
  | default _ hv _ ihe ihb => exact fun A hacc => ihb _ (hacc.vadd ihe hv)
  | pnil => trivial
  | leftZero => trivial
  | leftThenRightZero => trivial
  | rightZero => trivial
  | rightThenLeftZero => trivial
  | both => trivial
  | @input x idx hk =>
    show sem B idx _ = elemSem S p x idx
    simp only [elemSem, hk]
  | @pinned x d idx v hk hs =>
    show sem B idx v = elemSem S p x idx
    simp only [elemSem, hk, hs]
  | @body x d idx v hk hs hb ih =>
    show sem B idx v = elemSem S p x idx
    simp only [elemSem, hk, hs]
    exact (ih 0 ⟨trivial, rfl⟩).2
  | @product x a b idx v hk hp _ =>
    show sem B idx v = elemSem S p x idx
    simp only [elemSem, hk]
    have := Holds.pairs_sem he hp (show Supp B idx (.zero : SVal K) from trivial)
    simpa [sem] using this

theorem Den.sat (he : EnvOK B env) (S : EnvSem B env) {x : String} {idx : Idx} {v : SVal K}
    (h : Den p env x idx v) : mat B p env x idx = elemSem S p x idx := by
  rw [mat, den_eq h]; exact Holds.sat he S h

end Dsl
end Pyma

#print axioms Pyma.Dsl.Holds.pairs_sem
#print axioms Pyma.Dsl.Den.sat
