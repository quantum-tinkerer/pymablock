/-
Insertion into a strictly increasing list that drops what is already there, and the fold that sorts a list with it: the result is strictly
increasing and has the same members.  `Index.positions` (`np.where` of the trial array) and `Formats.symbolsOf` (the symbols of the keys,
ordered by name) are both this fold.  Also the running maximum behind `Index.trialLen` and `Formats.subspaces`.
-/
import Mathlib.Order.Defs.LinearOrder

namespace Pyma

variable {α : Type} [LinearOrder α]

def insertNew (x : α) : List α → List α
  | [] => [x]
  | y :: ys => if x = y then y :: ys else if x < y then x :: y :: ys else y :: insertNew x ys

theorem mem_insertNew (x t : α) : ∀ l : List α, t ∈ insertNew x l ↔ t = x ∨ t ∈ l
  | [] => by simp [insertNew]
  | y :: ys => by
    unfold insertNew
    split
    · subst x; simp
    · split
      · simp
      · rw [List.mem_cons, List.mem_cons, mem_insertNew x t ys]; exact or_left_comm

theorem sorted_insertNew (x : α) : ∀ l : List α, l.Pairwise (· < ·) → (insertNew x l).Pairwise (· < ·)
  | [], _ => List.pairwise_singleton _ _
  | y :: ys, h => by
    unfold insertNew
    have hy := List.pairwise_cons.mp h
    split
    · exact h
    · rename_i h1
      split
      · rename_i h2
        exact List.pairwise_cons.mpr ⟨fun t ht => (List.mem_cons.mp ht).elim (· ▸ h2) fun ht => lt_trans h2 (hy.1 t ht), h⟩
      · rename_i h2
        refine List.pairwise_cons.mpr ⟨fun t ht => ?_, sorted_insertNew x ys hy.2⟩
        rcases (mem_insertNew x t ys).1 ht with rfl | ht
        · exact lt_of_le_of_ne (not_lt.mp h2) (Ne.symm h1)
        · exact hy.1 t ht

theorem foldl_insertNew (l : List α) : ∀ acc : List α, acc.Pairwise (· < ·) →
    (l.foldl (fun acc s => insertNew s acc) acc).Pairwise (· < ·) ∧
    ∀ t, t ∈ l.foldl (fun acc s => insertNew s acc) acc ↔ t ∈ l ∨ t ∈ acc := by
  induction l with
  | nil => exact fun acc h => ⟨h, fun t => by simp⟩
  | cons s ss ih =>
    intro acc h
    obtain ⟨h1, h2⟩ := ih (insertNew s acc) (sorted_insertNew s acc h)
    refine ⟨h1, fun t => ?_⟩
    rw [List.foldl_cons, h2 t, mem_insertNew, List.mem_cons, or_assoc]
    exact or_left_comm

theorem foldl_insertNew_sorted (l : List α) : (l.foldl (fun acc s => insertNew s acc) []).Pairwise (· < ·) :=
  (foldl_insertNew l [] .nil).1

theorem mem_foldl_insertNew (l : List α) (t : α) : t ∈ l.foldl (fun acc s => insertNew s acc) [] ↔ t ∈ l := by
  rw [(foldl_insertNew l [] .nil).2, List.mem_nil_iff, or_false]

theorem le_foldl_max {β : Type} (f : β → Nat) : ∀ (l : List β) (m : Nat),
    m ≤ l.foldl (fun m b => max m (f b)) m ∧ ∀ b ∈ l, f b ≤ l.foldl (fun m b => max m (f b)) m
  | [], _ => ⟨Nat.le_refl _, nofun⟩
  | x :: xs, m => by
    obtain ⟨h1, h2⟩ := le_foldl_max f xs (max m (f x))
    refine ⟨Nat.le_trans (Nat.le_max_left ..) h1, fun b hb => ?_⟩
    rcases List.mem_cons.mp hb with rfl | hb
    · exact Nat.le_trans (Nat.le_max_right ..) h1
    · exact h2 b hb

theorem le_foldl_max_of_mem {β : Type} {f : β → Nat} {l : List β} {b : β} (m : Nat) (hb : b ∈ l) :
    f b ≤ l.foldl (fun m b => max m (f b)) m :=
  (le_foldl_max f l m).2 b hb

end Pyma
