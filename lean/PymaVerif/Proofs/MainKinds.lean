/-
The two translated programs, `main` and `nonhermitian`: their names, and what each name is — the
declared series with their bodies and the declared products.  Each statement is one lookup (`findSeries`,
`findProduct`) in the generated table, a finite fact, and is proved by kernel evaluation.
-/
import PymaVerif.Proofs.EntrySem
import PymaVerif.Model.Generated.Algorithms

namespace Pyma

def BlockDiag.Problem.mainNames : List String :=
  ["H", "H'_diag", "H'_offdiag", "V", "W", "Yadj", "U'", "U", "U'†", "U†", "X", "B", "H_tilde",
   "U'† @ U'", "H'_diag @ U'", "H'_offdiag @ U'", "U'† @ B", "V @ H'_diag"]

namespace Dsl
open Generated

def seriesDefOf (p : Prog) (x : String) : SeriesDef := (findSeries p x).getD default

theorem find_Hd : findSeries main "H'_diag" = some
    { name := "H'_diag", start := .zero, body := [ .clause .diagonal (.ser "H")] } := by decide +kernel

theorem find_Ho : findSeries main "H'_offdiag" = some
    { name := "H'_offdiag", start := .zero, body := [ .clause .offdiagonal (.ser "H")] } := by decide +kernel

theorem find_V : findSeries main "V" = some
    { name := "V", start := .zero, body := [ .marker true, .clause .offdiagonal (.neg (.callExpr "solve_sylvester" (.sub (.sub (.adj "Yadj") (.ser "V @ H'_diag")) (.adj "V @ H'_diag"))))] } := by decide +kernel

theorem find_W : findSeries main "W" = some
    { name := "W", start := .zero, body := [ .marker false, .clause .diagonal (.divInt (.ser "U'† @ U'") (-2)), .clause .offdiagonal (.ite (.name "two_block_optimized") .zero (.divInt (.ser "U'† @ U'") (-2)))] } := by decide +kernel

theorem find_Y : findSeries main "Yadj" = some
    { name := "Yadj", start := .zero, body := [ .marker false, .clause .offdiagonal (.ite (.name "two_block_optimized") (.adj "X") (.divInt (.add (.adj "X") (.ser "X")) 2)), .clause .diagonal (.ite (.indexed "commuting_blocks") .zero (.divInt (.add (.adj "X") (.ser "X")) 2))] } := by decide +kernel

theorem find_P : findSeries main "U'" = some
    { name := "U'", start := .zero, body := [ .clause .default (.add (.ser "W") (.ser "V"))] } := by decide +kernel

theorem find_U : findSeries main "U" = some
    { name := "U", start := .one, body := [ .clause .default (.ser "U'")] } := by decide +kernel

theorem find_Q : findSeries main "U'†" = some
    { name := "U'†", start := .none, body := [ .clause .default (.sub (.ser "W") (.ser "V"))] } := by decide +kernel

theorem find_Ud : findSeries main "U†" = some
    { name := "U†", start := .one, body := [ .clause .default (.ser "U'†")] } := by decide +kernel

theorem find_X : findSeries main "X" = some
    { name := "X", start := .zero, body := [ .clause .default (.add (.add (.ser "B") (.ser "H'_offdiag")) (.ser "H'_offdiag @ U'"))] } := by decide +kernel

theorem find_B : findSeries main "B" = some
    { name := "B", start := .zero, body := [ .clause .diagonal (.divInt (.add (.add (.sub (.ser "U'† @ B") (.adj "U'† @ B")) (.ser "H'_offdiag @ U'")) (.adj "H'_offdiag @ U'")) (-2)), .clause .diagonal (.ite (.indexed "commuting_blocks") .zero (.add (.ser "V @ H'_diag") (.adj "V @ H'_diag"))), .clause .offdiagonal (.neg (.ser "U'† @ B"))] } := by decide +kernel

theorem find_Ht : findSeries main "H_tilde" = some
    { name := "H_tilde", start := (.input "H"), body := [ .clause .diagonal (.sub (.add (.add (.ser "H'_diag") (.divInt (.add (.ser "H'_offdiag @ U'") (.adj "H'_offdiag @ U'")) 2)) (.divInt (.add (.ser "U'† @ B") (.adj "U'† @ B")) (-2))) (.ser "Yadj"))] } := by decide +kernel

theorem prod_QP : findSeries main "U'† @ U'" = none ∧ findProduct main "U'† @ U'" = some ("U'†", "U'") := by decide +kernel
theorem prod_A : findSeries main "H'_offdiag @ U'" = none ∧ findProduct main "H'_offdiag @ U'" = some ("H'_offdiag", "U'") := by decide +kernel
theorem prod_QB : findSeries main "U'† @ B" = none ∧ findProduct main "U'† @ B" = some ("U'†", "B") := by decide +kernel
theorem prod_VH : findSeries main "V @ H'_diag" = none ∧ findProduct main "V @ H'_diag" = some ("V", "H'_diag") := by decide +kernel

def nhProducts : List String :=
  ["U_inv' @ U'", "H'_diag @ U'", "U' @ H'_diag", "H'_offdiag @ U'", "U_inv' @ B"]

def nhNames : List String :=
  ["H", "H'_diag", "H'_offdiag", "U'", "U_inv'", "U", "U†", "X", "B", "H_tilde"] ++ nhProducts

theorem nfind_Hd : findSeries nonhermitian "H'_diag" = some
    { name := "H'_diag", start := .zero, body := [ .clause .diagonal (.ser "H")] } := by decide +kernel
theorem nfind_Ho : findSeries nonhermitian "H'_offdiag" = some
    { name := "H'_offdiag", start := .zero, body := [ .clause .offdiagonal (.ser "H")] } := by decide +kernel
theorem nfind_P : findSeries nonhermitian "U'" = some
    { name := "U'", start := .zero, body := [
        .clause .diagonal (.divInt (.ser "U_inv' @ U'") (-2)),
        .clause .offdiagonal (.callExpr "solve_sylvester" (.add (.sub (.ser "X") (.ser "H'_diag @ U'")) (.ser "U' @ H'_diag")))] } := by decide +kernel
theorem nfind_G : findSeries nonhermitian "U_inv'" = some
    { name := "U_inv'", start := .zero, body := [
        .clause .default (.sub (.neg (.ser "U'")) (.ser "U_inv' @ U'"))] } := by decide +kernel
theorem nfind_U : findSeries nonhermitian "U" = some
    { name := "U", start := .one, body := [ .clause .default (.ser "U'")] } := by decide +kernel
theorem nfind_Ud : findSeries nonhermitian "U†" = some
    { name := "U†", start := .one, body := [ .clause .default (.ser "U_inv'")] } := by decide +kernel
theorem nfind_X : findSeries nonhermitian "X" = some
    { name := "X", start := .zero, body := [
        .clause .offdiagonal (.neg (.add (.add (.ser "H'_offdiag") (.ser "H'_offdiag @ U'")) (.ser "U_inv' @ B"))),
        .clause .diagonal (.sub (.ser "H'_diag @ U'") (.ser "U' @ H'_diag"))] } := by decide +kernel
theorem nfind_B : findSeries nonhermitian "B" = some
    { name := "B", start := .zero, body := [
        .clause .default (.add (.add (.ser "X") (.ser "H'_offdiag")) (.ser "H'_offdiag @ U'"))] } := by decide +kernel
theorem nfind_Ht : findSeries nonhermitian "H_tilde" = some
    { name := "H_tilde", start := (.input "H"), body := [
        .clause .diagonal (.add (.add (.ser "H'_diag") (.ser "B")) (.ser "U_inv' @ B"))] } := by decide +kernel

theorem nprod_GP : findSeries nonhermitian "U_inv' @ U'" = none ∧ findProduct nonhermitian "U_inv' @ U'" = some ("U_inv'", "U'") := by decide +kernel
theorem nprod_HdP : findSeries nonhermitian "H'_diag @ U'" = none ∧ findProduct nonhermitian "H'_diag @ U'" = some ("H'_diag", "U'") := by decide +kernel
theorem nprod_PHd : findSeries nonhermitian "U' @ H'_diag" = none ∧ findProduct nonhermitian "U' @ H'_diag" = some ("U'", "H'_diag") := by decide +kernel
theorem nprod_A : findSeries nonhermitian "H'_offdiag @ U'" = none ∧ findProduct nonhermitian "H'_offdiag @ U'" = some ("H'_offdiag", "U'") := by decide +kernel
theorem nprod_GB : findSeries nonhermitian "U_inv' @ B" = none ∧ findProduct nonhermitian "U_inv' @ B" = some ("U_inv'", "B") := by decide +kernel

end Dsl
end Pyma
