/-
Ring homomorphisms of power series with matrix coefficients that act on the orders only: `f(λ) ↦ f(cλ)`, relabelling the multi-orders, pushing them
forward along an additive map with finite fibres (sum over the fibre; injective re-indexing is the case of fibres with at most one element).  What they
have in common: coefficient `n` of the image is the sum, with weights `w m`, of the coefficients `m` in a finite set `s n`.  Where the `s n` are the fibres
of an additive map of orders and `w` is multiplicative, such a map is a ring homomorphism; where the weights are real it commutes with the coefficientwise
adjoint, where no order of higher degree contributes it respects the filtration by degree, and it always commutes with every coefficientwise mask.
-/
import PymaVerif.Proofs.SeriesMask

namespace Pyma
open MvPowerSeries

section ordermap
variable {K : Type} [Field K] {d : Nat} {σ τ : Type}

theorem maskMap_smul [StarRing K] (pred : Fin d → Fin d → Bool) (c : K) (M : Mt K d) : maskMap pred (c • M) = c • maskMap pred M := by
  ext a b
  rw [Matrix.smul_apply, maskMap_apply, maskMap_apply, Matrix.smul_apply, smul_ite, smul_zero]

variable {T : Sr σ K d → Sr τ K d} {s : (τ →₀ ℕ) → Finset (σ →₀ ℕ)} {w : (σ →₀ ℕ) → K}
  (hT : ∀ f n, coeff n (T f) = ∑ m ∈ s n, w m • coeff m f)
include hT

theorem orderMap_mem (hdeg : ∀ n, ∀ m ∈ s n, m.degree ≤ n.degree) (k : ℕ) (x : Sr σ K d) (hx : x ∈ FDeg σ (Mt K d) k) :
    T x ∈ FDeg τ (Mt K d) k := by
  intro n hn
  rw [hT]
  apply Finset.sum_eq_zero
  intro m hm
  rw [hx m (lt_of_le_of_lt (hdeg n m hm) hn), smul_zero]

/-! The ring laws below are stated over a star field and index types with decidable equality although none of them uses the star, and `orderMap_zero`,
`orderMap_add` no decidable equality: a definition takes an instance argument only if its body mentions it, and the homomorphisms `rescaleS`,
`Fibred.pushS`, `Reindex.pushS`, `permS` get theirs through these lemmas.  They are stated coefficient by coefficient, the form in which the fields of
those homomorphisms take them (see `rescaleS`). -/
variable [StarRing K] [DecidableEq σ] [DecidableEq τ]

theorem orderMap_star (hw : ∀ m, star (w m) = w m) (x : Sr σ K d) : T (star x) = star (T x) := by
  ext n : 1
  rw [hT, coeff_star, hT, star_sum]
  exact Finset.sum_congr rfl fun m _ => by rw [coeff_star, star_smul, hw]

omit [DecidableEq σ] in
theorem orderMap_mask (pred : Fin d → Fin d → Bool) (x : Sr σ K d) :
    T (coeffwise (maskMap pred) x) = coeffwise (maskMap pred) (T x) := by
  ext n : 1
  rw [hT, coeff_coeffwise, hT, map_sum]
  exact Finset.sum_congr rfl fun m _ => by rw [coeff_coeffwise, maskMap_smul]

theorem orderMap_zero (n : τ →₀ ℕ) : coeff n (T 0) = coeff n 0 := by
  rw [hT]
  exact Finset.sum_eq_zero fun m _ => by rw [map_zero, smul_zero]

theorem orderMap_add (f g : Sr σ K d) (n : τ →₀ ℕ) : coeff n (T (f + g)) = coeff n (T f + T g) := by
  rw [map_add, hT, hT, hT, ← Finset.sum_add_distrib]
  exact Finset.sum_congr rfl fun m _ => by rw [map_add, smul_add]

variable (φ : (σ →₀ ℕ) →+ (τ →₀ ℕ)) (hs : ∀ n m, m ∈ s n ↔ φ m = n)
include hs

theorem orderMap_one (h1 : w 0 = 1) (n : τ →₀ ℕ) : coeff n (T 1) = coeff n 1 := by
  classical
  rw [hT, coeff_one]
  simp only [coeff_one, smul_ite, smul_zero]
  rw [Finset.sum_ite_eq', h1, one_smul]
  by_cases hn : n = 0
  · subst hn
    rw [if_pos rfl, if_pos ((hs _ _).mpr (map_zero φ))]
  · rw [if_neg hn, if_neg fun h0 => hn (((hs _ _).mp h0).symm.trans (map_zero φ))]

theorem orderMap_mul (hw : ∀ a b, w (a + b) = w a * w b) (f g : Sr σ K d) (n : τ →₀ ℕ) :
    coeff n (T (f * g)) = coeff n (T f * T g) := by
  classical
  rw [hT, coeff_mul]
  simp only [hT, coeff_mul, Finset.smul_sum, Finset.sum_mul_sum]
  -- both sides are sums over the pairs (m₁, m₂) with φ m₁ + φ m₂ = n
  rw [Finset.sum_sigma', Finset.sum_sigma']
  simp only [Finset.sum_sigma']
  apply Finset.sum_nbij' (fun x => ⟨⟨(φ x.2.1, φ x.2.2), x.2.1⟩, x.2.2⟩) (fun x => ⟨x.1.2 + x.2, (x.1.2, x.2)⟩)
  · rintro ⟨m, q⟩ hx
    simp only [Finset.mem_sigma, Finset.mem_antidiagonal] at hx ⊢
    obtain ⟨hm, hq⟩ := hx
    refine ⟨⟨?_, (hs _ _).mpr rfl⟩, (hs _ _).mpr rfl⟩
    rw [← map_add, hq]; exact (hs _ _).mp hm
  · rintro ⟨⟨q, m1⟩, m2⟩ hx
    simp only [Finset.mem_sigma, Finset.mem_antidiagonal] at hx ⊢
    obtain ⟨⟨hq, h1⟩, h2⟩ := hx
    refine ⟨(hs _ _).mpr ?_, trivial⟩
    rw [map_add, (hs _ _).mp h1, (hs _ _).mp h2, hq]
  · rintro ⟨m, q⟩ hx
    simp only [Finset.mem_sigma, Finset.mem_antidiagonal] at hx
    obtain ⟨_, hq⟩ := hx
    simp only [Sigma.mk.injEq, heq_eq_eq, and_true]
    exact hq
  · rintro ⟨⟨q, m1⟩, m2⟩ hx
    simp only [Finset.mem_sigma, Finset.mem_antidiagonal] at hx
    obtain ⟨⟨_, h1⟩, h2⟩ := hx
    have e1 := (hs _ _).mp h1
    have e2 := (hs _ _).mp h2
    simp only [e1, e2]
  · rintro ⟨m, q⟩ hx
    simp only [Finset.mem_sigma, Finset.mem_antidiagonal] at hx
    rw [← hx.2, hw, smul_mul_smul_comm]

end ordermap

section rescale
variable {K : Type} [Field K] [StarRing K] {d : Nat} {σ : Type} [DecidableEq σ]

noncomputable def rs (c : K) (f : Sr σ K d) : Sr σ K d := fun m => (c ^ m.degree) • coeff m f

omit [StarRing K] [DecidableEq σ] in
theorem coeff_rs (c : K) (f : Sr σ K d) (m : σ →₀ ℕ) : coeff m (rs c f) = (c ^ m.degree) • coeff m f := rfl

omit [StarRing K] [DecidableEq σ] in
theorem rs_sum (c : K) (f : Sr σ K d) (n : σ →₀ ℕ) : coeff n (rs c f) = ∑ m ∈ {n}, (c ^ m.degree) • coeff m f :=
  (Finset.sum_singleton _ _).symm

/-- `f(λ) ↦ f(cλ)` -/
noncomputable def rescaleS (c : K) : Sr σ K d →+* Sr σ K d where
  toFun := rs c
  -- Here and below each law is the coefficientwise `orderMap_*` lemma under `MvPowerSeries.ext`, on purpose.  What Lean abstracts from a field proof
  -- (`rescaleS._proof_1`, …) is the proposition its term infers: under `MvPowerSeries.ext` an equation in `MvPowerSeries σ (Mt K d)`, from a lemma
  -- concluding `T 0 = 0` one in the abbreviation `Sr σ K d`.  These maps occur in the statements of C13, so their terms keep the first form.
  map_zero' := MvPowerSeries.ext (orderMap_zero (rs_sum c))
  map_one' := MvPowerSeries.ext (orderMap_one (rs_sum c) (.id _) (fun _ _ => Finset.mem_singleton) (by rw [map_zero, pow_zero]))
  map_add' f g := MvPowerSeries.ext (orderMap_add (rs_sum c) f g)
  map_mul' f g := MvPowerSeries.ext
    (orderMap_mul (rs_sum c) (.id _) (fun _ _ => Finset.mem_singleton) (fun a b => by rw [map_add, pow_add]) f g)

theorem coeff_rescaleS (c : K) (f : Sr σ K d) (m : σ →₀ ℕ) :
    coeff m (rescaleS c f) = (c ^ m.degree) • coeff m f := rfl

end rescale

section fib
variable {K : Type} [Field K] [StarRing K] {d : Nat} {σ τ : Type} [DecidableEq σ] [DecidableEq τ]

structure Fibred (σ τ : Type) [DecidableEq σ] where
  φ : (σ →₀ ℕ) →+ (τ →₀ ℕ)
  fib : (τ →₀ ℕ) → Finset (σ →₀ ℕ)
  spec : ∀ n m, m ∈ fib n ↔ φ m = n

namespace Fibred
variable (R : Fibred σ τ)

noncomputable def push (f : Sr σ K d) : Sr τ K d := fun n => ∑ m ∈ R.fib n, coeff m f

omit [StarRing K] [DecidableEq τ] in
theorem coeff_push (f : Sr σ K d) (n : τ →₀ ℕ) : coeff n (R.push f) = ∑ m ∈ R.fib n, coeff m f := rfl

omit [StarRing K] [DecidableEq τ] in
theorem push_sum (f : Sr σ K d) (n : τ →₀ ℕ) : coeff n (R.push f) = ∑ m ∈ R.fib n, (1 : K) • coeff m f := by
  simp only [one_smul]
  rfl

theorem push_mul (f g : Sr σ K d) : R.push (f * g) = R.push f * R.push g :=
  MvPowerSeries.ext (orderMap_mul R.push_sum R.φ R.spec (fun _ _ => (mul_one 1).symm) f g)

noncomputable def pushS : Sr σ K d →+* Sr τ K d where
  toFun := R.push
  map_zero' := MvPowerSeries.ext (orderMap_zero R.push_sum)
  map_one' := MvPowerSeries.ext (orderMap_one R.push_sum R.φ R.spec rfl)
  map_add' f g := MvPowerSeries.ext (orderMap_add R.push_sum f g)
  map_mul' := R.push_mul

theorem coeff_pushS (f : Sr σ K d) (n : τ →₀ ℕ) : coeff n (R.pushS f) = ∑ m ∈ R.fib n, coeff m f := rfl

end Fibred

/-- an injective additive re-indexing `φ` of multi-orders together with a decision procedure `ψ` for its image -/
structure Reindex (σ τ : Type) where
  φ : (σ →₀ ℕ) →+ (τ →₀ ℕ)
  ψ : (τ →₀ ℕ) → Option (σ →₀ ℕ)
  spec : ∀ n m, ψ n = some m ↔ φ m = n

namespace Reindex
variable (R : Reindex σ τ)

noncomputable def push (f : Sr σ K d) : Sr τ K d := fun n => match R.ψ n with
  | some m => coeff m f
  | none => 0

omit [StarRing K] [DecidableEq σ] [DecidableEq τ] in
theorem coeff_push (f : Sr σ K d) (n : τ →₀ ℕ) : coeff n (R.push f) = match R.ψ n with
    | some m => coeff m f
    | none => 0 := rfl

omit [DecidableEq σ] [DecidableEq τ] in
theorem mem_fib (n : τ →₀ ℕ) (m : σ →₀ ℕ) : m ∈ (R.ψ n).toFinset ↔ R.φ m = n := by
  rw [Option.mem_toFinset, Option.mem_def, R.spec]

omit [StarRing K] [DecidableEq σ] [DecidableEq τ] in
theorem push_sum (f : Sr σ K d) (n : τ →₀ ℕ) : coeff n (R.push f) = ∑ m ∈ (R.ψ n).toFinset, (1 : K) • coeff m f := by
  rw [coeff_push]
  cases R.ψ n <;> simp

theorem push_mul (f g : Sr σ K d) : R.push (f * g) = R.push f * R.push g :=
  MvPowerSeries.ext (orderMap_mul R.push_sum R.φ R.mem_fib (fun _ _ => (mul_one 1).symm) f g)

noncomputable def pushS : Sr σ K d →+* Sr τ K d where
  toFun := R.push
  map_zero' := MvPowerSeries.ext (orderMap_zero R.push_sum)
  map_one' := MvPowerSeries.ext (orderMap_one R.push_sum R.φ R.mem_fib rfl)
  map_add' f g := MvPowerSeries.ext (orderMap_add R.push_sum f g)
  map_mul' := R.push_mul

theorem coeff_pushS (f : Sr σ K d) (n : τ →₀ ℕ) : coeff n (R.pushS f) = match R.ψ n with
    | some m => coeff m f
    | none => 0 := rfl

end Reindex
end fib

section permute
variable {K : Type} [Field K] [StarRing K] {d : Nat} {σ : Type} [DecidableEq σ]

noncomputable def ps (E : (σ →₀ ℕ) ≃+ (σ →₀ ℕ)) (f : Sr σ K d) : Sr σ K d := fun m => coeff (E m) f

omit [StarRing K] [DecidableEq σ] in
theorem coeff_ps (E : (σ →₀ ℕ) ≃+ (σ →₀ ℕ)) (f : Sr σ K d) (m : σ →₀ ℕ) : coeff m (ps E f) = coeff (E m) f := rfl

omit [StarRing K] [DecidableEq σ] in
theorem ps_sum (E : (σ →₀ ℕ) ≃+ (σ →₀ ℕ)) (f : Sr σ K d) (n : σ →₀ ℕ) : coeff n (ps E f) = ∑ m ∈ {E n}, (1 : K) • coeff m f := by
  rw [Finset.sum_singleton, one_smul]
  rfl

omit [DecidableEq σ] in
theorem mem_singleton_equiv (E : (σ →₀ ℕ) ≃+ (σ →₀ ℕ)) (n m : σ →₀ ℕ) : m ∈ ({E n} : Finset (σ →₀ ℕ)) ↔ (E.symm : _ →+ _) m = n := by
  rw [Finset.mem_singleton, AddMonoidHom.coe_coe, AddEquiv.symm_apply_eq]

noncomputable def permS (E : (σ →₀ ℕ) ≃+ (σ →₀ ℕ)) : Sr σ K d →+* Sr σ K d where
  toFun := ps E
  map_zero' := MvPowerSeries.ext (orderMap_zero (ps_sum E))
  map_one' := MvPowerSeries.ext (orderMap_one (ps_sum E) _ (mem_singleton_equiv E) rfl)
  map_add' f g := MvPowerSeries.ext (orderMap_add (ps_sum E) f g)
  map_mul' f g := MvPowerSeries.ext (orderMap_mul (ps_sum E) _ (mem_singleton_equiv E) (fun _ _ => (mul_one 1).symm) f g)

theorem coeff_permS (E : (σ →₀ ℕ) ≃+ (σ →₀ ℕ)) (f : Sr σ K d) (m : σ →₀ ℕ) :
    coeff m (permS E f) = coeff (E m) f := rfl

theorem degree_domCongr (e : σ ≃ σ) (m : σ →₀ ℕ) : (Finsupp.domCongr e m).degree = m.degree := by
  rw [Finsupp.domCongr_apply, Finsupp.equivMapDomain_eq_mapDomain, Finsupp.degree_mapDomain]
end permute

section instances

/-- the `spec` of a `Reindex` whose `ψ` decides a property `P` that holds on the image of `φ` and applies there an inverse `g` of `φ` -/
theorem ite_some_eq_iff {α β : Type} {φ : α → β} {P : β → Prop} [DecidablePred P] {g : β → α}
    (hP : ∀ m, P (φ m)) (hl : ∀ m, g (φ m) = m) (hr : ∀ n, P n → φ (g n) = n) (n : β) (m : α) :
    (if P n then some (g n) else none) = some m ↔ φ m = n := by
  constructor
  · intro h
    split at h
    · cases h
      exact hr n ‹_›
    · cases h
  · rintro rfl
    rw [if_pos (hP m), hl]

variable {σ : Type} [Fintype σ]

/-- `λ_i ↦ λ_i^r` for all parameters: multi-order `m ↦ r·m` -/
noncomputable def powerReindex (r : ℕ) (hr : 0 < r) : Reindex σ σ where
  φ := { toFun := fun m => r • m, map_zero' := by simp, map_add' := fun a b => by simp [smul_add] }
  ψ := fun n => if ∀ i, r ∣ n i then some (Finsupp.mapRange (· / r) (by simp) n) else none
  spec := by
    refine ite_some_eq_iff (fun m i => ⟨m i, rfl⟩) (fun m => ?_) (fun n hd => ?_)
    · ext i
      exact Nat.mul_div_cancel_left (m i) hr
    · ext i
      exact Nat.mul_div_cancel' (hd i)

theorem powerReindex_degree (r : ℕ) (hr : 0 < r) (m : σ →₀ ℕ) : m.degree ≤ ((powerReindex (σ := σ) r hr).φ m).degree := by
  show m.degree ≤ (r • m).degree
  rw [map_nsmul]
  exact Nat.le_mul_of_pos_left _ hr

/-- padding with one more (vanishing) parameter: `(m_0 … m_{k-1}) ↦ (m_0 … m_{k-1}, 0)` -/
noncomputable def padReindex (k : ℕ) : Reindex (Fin k) (Fin (k + 1)) where
  φ := { toFun := fun m => Finsupp.embDomain Fin.castSuccEmb m
         map_zero' := by ext i; simp [Finsupp.embDomain_zero]
         map_add' := fun a b => by
           ext i
           exact DFunLike.congr_fun (Finsupp.embDomain_add _ a b) i }
  ψ := fun n => if n (Fin.last k) = 0 then
      some (Finsupp.comapDomain Fin.castSucc n (Fin.castSucc_injective k).injOn) else none
  spec := by
    have hlast : Fin.last k ∉ Set.range (Fin.castSuccEmb (n := k)) := fun ⟨j, hj⟩ => (Fin.castSucc_lt_last j).ne hj
    refine ite_some_eq_iff (fun m => Finsupp.embDomain_of_notMem_range _ m _ hlast)
      (Finsupp.comapDomain_embDomain Fin.castSuccEmb) (fun n h0 => Finsupp.embDomain_comapDomain fun i hi => ?_)
    exact Fin.exists_castSucc_eq.mpr fun hl => Finsupp.mem_support_iff.mp hi (hl ▸ h0)

theorem padReindex_degree (k : ℕ) (m : Fin k →₀ ℕ) : m.degree ≤ ((padReindex k).φ m).degree := by
  show m.degree ≤ (Finsupp.embDomain Fin.castSuccEmb m).degree
  rw [Finsupp.embDomain_eq_mapDomain, Finsupp.degree_mapDomain]

end instances

theorem pair_apply_zero (a b : ℕ) : (Finsupp.single (0 : Fin 2) a + Finsupp.single (1 : Fin 2) b : Fin 2 →₀ ℕ) 0 = a := by
  rw [Finsupp.add_apply, Finsupp.single_eq_same, Finsupp.single_eq_of_ne (by decide), add_zero]

theorem pair_apply_one (a b : ℕ) : (Finsupp.single (0 : Fin 2) a + Finsupp.single (1 : Fin 2) b : Fin 2 →₀ ℕ) 1 = b := by
  rw [Finsupp.add_apply, Finsupp.single_eq_same, Finsupp.single_eq_of_ne (by decide), zero_add]

/-- merging two parameters into one: `(a, b) ↦ a + b` -/
noncomputable def mergeFibred : Fibred (Fin 2) (Fin 1) where
  φ := { toFun := fun m => Finsupp.single 0 (m 0 + m 1)
         map_zero' := by simp
         map_add' := fun a b => by
           rw [← Finsupp.single_add]; congr 1
           simp only [Finsupp.coe_add, Pi.add_apply]; omega }
  fib := fun n => (Finset.antidiagonal (n 0)).image fun q => (Finsupp.single (0 : Fin 2) q.1 + Finsupp.single (1 : Fin 2) q.2 : Fin 2 →₀ ℕ)
  spec := by
    intro n m
    rw [Finset.mem_image]
    constructor
    · rintro ⟨q, hq, rfl⟩
      refine Finsupp.unique_ext (Finsupp.single_eq_same.trans ?_)
      rw [pair_apply_zero, pair_apply_one]
      exact Finset.mem_antidiagonal.mp hq
    · intro h
      refine ⟨(m 0, m 1), ?_, ?_⟩
      · rw [Finset.mem_antidiagonal, ← h]
        exact Finsupp.single_eq_same.symm
      · apply Finsupp.ext
        intro i
        fin_cases i
        · exact pair_apply_zero (m 0) (m 1)
        · exact pair_apply_one (m 0) (m 1)

theorem mergeFibred_degree (m : Fin 2 →₀ ℕ) : m.degree ≤ (mergeFibred.φ m).degree := by
  show m.degree ≤ (Finsupp.single (0 : Fin 1) (m 0 + m 1)).degree
  rw [Finsupp.degree_single, Finsupp.degree_eq_sum, Fin.sum_univ_two]

end Pyma
