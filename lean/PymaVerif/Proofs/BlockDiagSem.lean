/-
The scope that `block_diagonalize` wires into an algorithm (model: `BlockDiag.Problem.env`) keeps
block supports (`envOK`) and has a ring-level meaning (`envSem`), in which the Sylvester solver of the
scope is division by the energy difference and solves its equation entry by entry
(`solveSem_sylvester`, C16).
-/
import PymaVerif.Proofs.StepSem
import PymaVerif.Model.BlockDiag

namespace Pyma
namespace BlockDiag
open Dsl

namespace Problem

section scope
variable {K : Type} [Scalar K] {p : Problem K}

theorem offdiag_eq {od : SVal K → Idx → SVal K} (h : p.env.offdiag = some od) : od = p.offdiagW := by
  have h : (if fdIsEmpty p.fdEff then none else some p.offdiagW) = some od := h
  split at h
  · cases h
  · exact (Option.some.inj h).symm

/-- only `solve_sylvester` is in scope, and it is not applied to a series -/
theorem env_fn_inl {f x : String} {idx : Idx} {w : SVal K} : p.env.fn f (.inl x) idx ≠ .ok w := by
  intro h
  simp only [env] at h
  split at h <;> cases h

end scope

section
variable {K : Type} (p : Problem K)

abbrev blocks : Blocks := ⟨p.d, p.blk⟩

def WF : Prop := ∀ t ∈ p.terms, t.2.d = p.d

abbrev withTerms (p : Problem K) (ts : List (List Nat × Mat K)) : Problem K := { p with terms := ts }

abbrev reshape (p : Problem K) (ts : List (List Nat × Mat K)) (bo : Array Nat) (nb : Nat) (fd : FD) (at_ : Rat) : Problem K :=
  { p with terms := ts, blockOf := bo, nblocks := nb, fd := fd, atol := at_ }

abbrev reparam (p : Problem K) (k' : Nat) (ts : List (List Nat × Mat K)) : Problem K := { p with nparams := k', terms := ts }

theorem term_mem {n : List Nat} {m : Mat K} (ht : p.term n = some m) : (n, m) ∈ p.terms := by
  simp only [term, Option.map_eq_some_iff] at ht
  obtain ⟨t, hfind, rfl⟩ := ht
  have h1 := List.mem_of_find?_eq_some hfind
  have h2 := List.find?_some hfind
  simp only [beq_iff_eq] at h2
  rw [← h2]; exact h1

theorem term_d (hwf : p.WF) {n : List Nat} {h : Mat K} (ht : p.term n = some h) : h.d = p.d :=
  hwf _ (p.term_mem ht)

theorem inBlock_iff {i j a b : Nat} : p.inBlock i j a b = true ↔ p.blk a = i ∧ p.blk b = j := by
  simp [inBlock]

end

variable {K : Type} [Field K] [StarRing K] [DecidableEq K] [Thresholds K] (p : Problem K)
attribute [local instance] Scalar.ofField


def hadamard (pred : Nat → Nat → Bool) (M : MatK K p.blocks) : MatK K p.blocks :=
  fun a b => if pred a.val b.val then M a b else 0

def solveSem (M : MatK K p.blocks) (idx : Idx) : MatK K p.blocks :=
  fun a b =>
    if p.inBlock idx.i idx.j a.val b.val then
      if Scalar.absGt (p.energy a.val - p.energy b.val) p.atol then
        M a b * (p.energy a.val - p.energy b.val)⁻¹ else 0
    else 0

def H0m : MatK K p.blocks := Matrix.diagonal fun a => p.energy a.val

/-- C16 (diagonal solver, exact model): the returned matrix solves the Sylvester equation on every entry
where the energy difference exceeds the tolerance, and vanishes elsewhere -/
theorem solveSem_sylvester (hgt : ∀ (x : K) (t : Rat), Thresholds.absGt x t = true → x ≠ 0)
    (M : MatK K p.blocks) (idx : Idx) (a b : Fin p.d) :
    (p.H0m * p.solveSem M idx - p.solveSem M idx * p.H0m) a b =
      if p.inBlock idx.i idx.j a.val b.val ∧
          Thresholds.absGt (p.energy a.val - p.energy b.val) p.atol = true
      then M a b else 0 := by
  simp only [H0m, Matrix.sub_apply, Matrix.diagonal_mul, Matrix.mul_diagonal, solveSem]
  by_cases h1 : p.inBlock idx.i idx.j a.val b.val = true
  · by_cases h2 : Thresholds.absGt (p.energy a.val - p.energy b.val) p.atol = true
    · have h2' : Scalar.absGt (p.energy a.val - p.energy b.val) p.atol = true := h2
      rw [if_pos h1, if_pos h2', if_pos ⟨h1, h2⟩, mul_comm (p.energy a.val), ← mul_sub, mul_assoc,
        inv_mul_cancel₀ (hgt _ _ h2), mul_one]
    · have h2' : ¬ Scalar.absGt (p.energy a.val - p.energy b.val) p.atol = true := h2
      rw [if_pos h1, if_neg h2', if_neg (fun h => h2 h.2), mul_zero, zero_mul, sub_zero]
  · rw [if_neg h1, if_neg (fun h => h1 h.1), mul_zero, zero_mul, sub_zero]

/-! One lemma per operation of the scope, saying that the result is a value of the block asked for and what
it means (`Means`); `envOK` and `envSem` below read off the two halves. -/

variable {p} {idx : Idx}

theorem means_ofFn {f : Nat → Nat → K}
    (hf : ∀ a b, a < p.d → b < p.d → ¬ (p.blk a = idx.i ∧ p.blk b = idx.j) → f a b = 0) :
    Means p.blocks idx (.val (Mat.ofFn p.d f)) fun a b => f a.val b.val :=
  ⟨⟨rfl, fun a b ha hb hn => (Mat.get_ofFn f ha hb).trans (hf a b ha hb hn)⟩, Mat.toMatrix_ofFn p.d f⟩

theorem means_mask {m : Mat K} (hd : m.d = p.d) (keep : Nat → Nat → Bool)
    (h : ∀ a b, a < p.d → b < p.d → ¬ (p.blk a = idx.i ∧ p.blk b = idx.j) → keep a b = true → m.get a b = 0) :
    Means p.blocks idx (.val (m.mask keep)) (p.hadamard keep (Mat.toMatrix p.d m)) := by
  rw [Mat.mask, hd]
  exact means_ofFn fun a b ha hb hn => ite_eq_right_iff.mpr (h a b ha hb hn)

theorem means_blockOne (h : idx.i = idx.j) :
    Means p.blocks idx (.val (Mat.blockOne p.d fun a => p.blk a == idx.i)) (blockId p.blocks idx.i : MatK K p.blocks) := by
  refine (means_ofFn fun a b _ _ hn => if_neg fun hk => ?_).imp_right fun e => e.trans ?_
  · simp only [Bool.and_eq_true, beq_iff_eq] at hk
    exact hn ⟨hk.2, h ▸ hk.1 ▸ hk.2⟩
  · funext a b
    simp only [blockId, Matrix.diagonal_apply, Fin.ext_iff, beq_iff_eq, Bool.and_eq_true]
    by_cases hab : a.val = b.val <;> simp [hab]

theorem means_maskVal {keep : Nat → Nat → Bool} {v : SVal K} {V : MatK K p.blocks} (hv : Means p.blocks idx v V) :
    Means p.blocks idx (p.maskVal keep v idx) (p.hadamard keep V) := by
  obtain ⟨hv, rfl⟩ := hv
  cases v with
  | zero => exact ⟨trivial, funext fun a => funext fun b => (ite_self _).symm⟩
  | one =>
    obtain ⟨h1, e⟩ := means_blockOne (K := K) (p := p) (idx := idx) hv
    have := means_mask (idx := idx) rfl keep fun a b ha hb hn _ => h1.2 a b ha hb hn
    rwa [show Mat.toMatrix p.d _ = _ from e] at this
  | val m => exact means_mask hv.1 keep fun a b ha hb hn _ => hv.2 a b ha hb hn

theorem means_diag {v : SVal K} {V : MatK K p.blocks} (hv : Means p.blocks idx v V) :
    Means p.blocks idx (p.env.diag v idx)
      (if p.selected idx.i then p.hadamard (fun a b => !p.elim a b) V else V) := by
  show Means _ _ (p.diagW v idx) _
  unfold diagW
  split
  · exact means_maskVal hv
  · exact hv

theorem means_offdiagW {v : SVal K} {V : MatK K p.blocks} (hv : Means p.blocks idx v V) :
    Means p.blocks idx (p.offdiagW v idx)
      (if p.selected idx.i then p.hadamard (fun a b => p.elim a b) V else 0) := by
  unfold offdiagW
  split
  · exact means_maskVal hv
  · exact ⟨trivial, rfl⟩

/-- an exact zero block is the `zero` sentinel -/
theorem means_input (hwf : p.WF) (x : String) (idx : Idx) :
    Means p.blocks idx (p.env.input x idx) (match p.term idx.n with
      | none => 0
      | some h => p.hadamard (p.inBlock idx.i idx.j) (Mat.toMatrix p.d h)) := by
  show Means _ _ (p.inputH idx) _
  unfold inputH
  cases ht : p.term idx.n with
  | none => exact ⟨trivial, rfl⟩
  | some h =>
    have hm := means_mask (idx := idx) (p.term_d hwf ht) (p.inBlock idx.i idx.j)
      fun a b _ _ hn hk => absurd (p.inBlock_iff.mp hk) hn
    dsimp only
    split
    · rename_i hz
      exact ⟨trivial, hm.2 ▸ funext fun a => funext fun b => (Mat.isZero_get hz _ _).symm⟩
    · exact hm

theorem means_solve {f : String} {v w : SVal K} {V : MatK K p.blocks} (hv : Means p.blocks idx v V)
    (h : p.env.fn f (.inr v) idx = .ok w) :
    Means p.blocks idx w (if f == "solve_sylvester" then p.solveSem V idx else 0) := by
  obtain ⟨hv, rfl⟩ := hv
  simp only [env] at h
  split at h
  · rename_i hf
    rw [if_pos hf]
    cases v with
    | zero => cases h; exact ⟨trivial, funext fun a => funext fun b => by simp [sem, solveSem]⟩
    | one => cases h
    | val y =>
      simp only [solveSylvester] at h
      split at h
      · cases h
      · cases h
        exact means_ofFn fun a b _ _ hn => if_neg fun hk => hn (p.inBlock_iff.mp hk)
  · cases h

variable (p)

theorem envOK (hwf : p.WF) : EnvOK p.blocks p.env where
  input := fun x idx => (means_input hwf x idx).1
  fnSer := fun _ _ _ _ h => (env_fn_inl h).elim
  fnVal := fun _ _ _ _ hv h => (means_solve hv.means h).1
  diag := fun _ _ hv => (means_diag hv.means).1
  offdiag := fun _ _ _ hod hv => offdiag_eq hod ▸ (means_offdiagW hv.means).1

noncomputable def envSem (_hwf : p.WF) : EnvSem p.blocks p.env where
  fnVal := fun f M idx => if f == "solve_sylvester" then p.solveSem M idx else 0
  fnSer := fun _ _ _ => 0
  diag := fun M idx => if p.selected idx.i then p.hadamard (fun a b => !p.elim a b) M else M
  offdiag := fun M idx => if p.selected idx.i then p.hadamard (fun a b => p.elim a b) M else 0
  fnVal_ok := by
    intro f v idx w hv h
    exact (means_solve hv.means h).2
  fnSer_ok := by
    intro f x idx w h
    exact (env_fn_inl h).elim
  diag_ok := by
    intro v idx hv
    exact (means_diag hv.means).2
  offdiag_ok := by
    intro od v idx hod hv
    exact offdiag_eq hod ▸ (means_offdiagW hv.means).2

end Problem
end BlockDiag
end Pyma
#print axioms Pyma.BlockDiag.Problem.envSem
#print axioms Pyma.BlockDiag.Problem.solveSem_sylvester
