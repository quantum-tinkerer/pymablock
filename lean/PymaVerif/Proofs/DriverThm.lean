/-
The bridge between the executable evaluator (the driver) and the series the property theorems speak
about.  Sound: any value `getElem` returns for block `(i,j)` and order `toList m` is, entry by entry,
the corresponding coefficient of `sr`.  Total: on every accepted problem it returns a value for every
element of every series of the shipped algorithms (no error, no fuel exhaustion for large enough
fuel).
-/
import PymaVerif.Proofs.DslDet
import PymaVerif.Proofs.MainSeries
import PymaVerif.Proofs.NhAccepted

namespace Pyma
namespace BlockDiag
open Dsl Generated MvPowerSeries
namespace Problem

variable {K : Type} [Field K] [StarRing K] [DecidableEq K] [Thresholds K]
attribute [local instance] Scalar.ofField

section
variable (p : Problem K)

/-- what the driver prints is the coefficient of the series in the theorems -/
theorem driver_sound (fuel : Nat) (x : String) (m : Fin p.nparams →₀ ℕ) (a b : Fin p.d)
    (v : SVal K) (c' : Cache K)
    (hrun : getElem main p.env fuel x ⟨p.blk a.val, p.blk b.val, toList m⟩ ∅ = .ok (v, c')) :
    coeff m (p.sr x) a b = sem p.blocks ⟨p.blk a.val, p.blk b.val, toList m⟩ v a b := by
  obtain ⟨hd, _⟩ := getElem_sound main p.env fuel x _ ∅ v c' cacheOK_empty hrun
  exact hd.G_eq

end

variable {p : Problem K}

/-- **C20, model level (Hermitian mode)**: an accepted problem is always answered -/
theorem driver_total (h : p.Accepted) (x : String) (hx : x ∈ mainNames) (idx : Idx) :
    ∃ fuel v c', getElem main p.env fuel x idx ∅ = .ok (v, c') := by
  obtain ⟨v, hv⟩ := p.total_main h.noShared x hx idx
  obtain ⟨fuel, c', hrun⟩ := getElem_complete hv
  exact ⟨fuel, v, c', hrun⟩

/-- the same for the non-Hermitian algorithm -/
theorem driver_total_nh (h : p.AcceptedN) (x : String) (hx : x ∈ nhNames) (idx : Idx) :
    ∃ fuel v c', getElem nonhermitian p.env fuel x idx ∅ = .ok (v, c') := by
  obtain ⟨v, hv⟩ := p.total_nh (noShared_of h.no_shared) x hx idx
  obtain ⟨fuel, c', hrun⟩ := getElem_complete hv
  exact ⟨fuel, v, c', hrun⟩

end Problem
end BlockDiag
end Pyma
#print axioms Pyma.BlockDiag.Problem.driver_sound
#print axioms Pyma.BlockDiag.Problem.driver_total
