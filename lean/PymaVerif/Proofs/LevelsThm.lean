/-
What a fully diagonalised block keeps together (`BlockDiag.Problem.sameLevel`: levels connected by steps within `atol`, the code's
`_transitive_closure(equal_eigs)`) makes the kept pattern of every block an equivalence: the side condition `comm_trans` of `Accepted` — the kept part of
a "commuting" block is closed under multiplication — holds of every problem, whatever its energies and tolerance ("equal within atol" decided pair by pair
fails it for chains of close levels: D37).  What remains to be asked (`InputFacts.accepted`): the facts about the input, and two facts about the masks —
symmetric inside a block, nothing selected between levels equal within `atol`.  The masks the code builds for the list form of `fully_diagonalize` have
both (`InputOK.accepted`); masks given by the caller are checked for both by the set-up phase (`MasksOK.accepted`, `ValidateBridge.lean`).
-/
import PymaVerif.Proofs.Accepted
import PymaVerif.Proofs.ClosureThm

namespace Pyma
namespace BlockDiag
namespace Problem

variable {K : Type} [Field K] [StarRing K] [DecidableEq K] [Thresholds K] [LawfulThresholds K]
attribute [local instance] Scalar.ofField
variable {p : Problem K}

theorem closeIn_symm (a b : Nat) : p.closeIn a b = p.closeIn b a := by
  unfold closeIn equalEigs
  have h2 : Scalar.absGt (p.energy a - p.energy b) p.atol = Scalar.absGt (p.energy b - p.energy a) p.atol := by
    have := LawfulThresholds.absGt_neg (p.energy b - p.energy a) p.atol
    rw [neg_sub] at this
    exact this
  rw [BEq.comm, h2]

theorem sameLevel_symm (a b : Nat) : p.sameLevel a b = p.sameLevel b a :=
  Closure.closure_symm (fun a b _ _ => closeIn_symm a b) a b

omit [LawfulThresholds K] in
theorem sameLevel_trans {a b c : Nat} (h1 : p.sameLevel a c = true) (h2 : p.sameLevel c b = true) : p.sameLevel a b = true :=
  Closure.closure_trans h1 h2

theorem sameLevel_blk {a b : Nat} (h : p.sameLevel a b = true) : p.blk a = p.blk b :=
  Closure.closure_minimal (fun a b => p.blk a = p.blk b)
    (fun a b _ _ hab => by
      unfold closeIn at hab
      rw [Bool.and_eq_true] at hab
      exact beq_iff_eq.mp hab.1)
    (fun _ _ _ _ _ _ h1 h2 => h1.trans h2) h

omit [LawfulThresholds K] in
theorem sameLevel_of_close {a b : Nat} (ha : a < p.d) (hb : b < p.d) (hblk : p.blk a = p.blk b) (h : p.equalEigs a b = true) :
    p.sameLevel a b = true :=
  Closure.closure_of_rel ha hb (by rw [closeIn, hblk, h, beq_self_eq_true, Bool.and_self])

omit [LawfulThresholds K] in
theorem not_close_of_not_sameLevel {a b : Nat} (ha : a < p.d) (hb : b < p.d) (hblk : p.blk a = p.blk b) (h : p.sameLevel a b = false) :
    p.equalEigs a b = false := by
  by_contra hc
  have : p.equalEigs a b = true := by simpa using hc
  rw [sameLevel_of_close ha hb hblk this] at h
  cases h

theorem keptE_trans (a b c : Nat) (hc : p.commuting (p.blk a) = true) (hab : p.keptE a b = true) (hcb : p.keptE c b = true) :
    p.keptE a c = true := by
  unfold keptE elimIn at *
  rw [Bool.and_eq_true] at hab hcb ⊢
  obtain ⟨hb1, hab2⟩ := hab
  obtain ⟨hb2, hcb2⟩ := hcb
  have e1 : p.blk a = p.blk b := beq_iff_eq.mp hb1
  have e2 : p.blk c = p.blk b := beq_iff_eq.mp hb2
  refine ⟨beq_iff_eq.mpr (e1.trans e2.symm), ?_⟩
  by_cases hsel : p.selected (p.blk a) = true
  · have hselc : p.selected (p.blk c) = true := by rw [e2, ← e1]; exact hsel
    rw [hsel, Bool.true_and] at hab2 ⊢
    rw [hselc, Bool.true_and] at hcb2
    unfold elim at hab2 hcb2 ⊢
    unfold commuting at hc
    unfold selected at hsel
    cases hfd : p.fdEff with
    | none => rfl
    | tuple l =>
      simp only [hfd, Bool.not_not] at hab2 hcb2 ⊢
      exact sameLevel_trans hab2 (by rw [sameLevel_symm]; exact hcb2)
    | dict l =>
      simp only [hfd] at hc hsel
      rw [hsel] at hc
      cases hc
  · have : p.selected (p.blk a) = false := by simpa using hsel
    rw [this]; rfl

omit [LawfulThresholds K] in
theorem keptE_of_not_elim {a b : Nat} (hblk : p.blk a = p.blk b) (he : p.elim a b = false) : p.keptE a b = true := by
  unfold keptE elimIn
  rw [hblk, beq_self_eq_true, he, Bool.and_false]
  rfl

omit [LawfulThresholds K] in
theorem elim_of_not_keptE {a b : Nat} (hblk : p.blk a = p.blk b) (hk : p.keptE a b = false) : p.elim a b = true := by
  by_contra he
  rw [keptE_of_not_elim hblk (eq_false_of_ne_true he)] at hk
  cases hk

theorem absGt_zero (hat : 0 ≤ p.atol) : Scalar.absGt (0 : K) p.atol = false := by
  by_contra h
  have h' : Thresholds.absGt (0 : K) p.atol = true := by
    have : Scalar.absGt (0 : K) p.atol = true := by simpa using h
    exact this
  exact LawfulThresholds.absGt_ne (0 : K) p.atol hat h' rfl

omit [LawfulThresholds K] in
theorem equalEigs_eq_false {a b : Nat} : p.equalEigs a b = false ↔ Scalar.absGt (p.energy a - p.energy b) p.atol = true := by
  unfold equalEigs
  rw [Bool.not_eq_false']

theorem equalEigs_self (hat : 0 ≤ p.atol) (a : Nat) : p.equalEigs a a = true := by
  unfold equalEigs
  rw [sub_self, absGt_zero hat]
  rfl

theorem sameLevel_self (hat : 0 ≤ p.atol) {a : Nat} (ha : a < p.d) : p.sameLevel a a = true :=
  sameLevel_of_close ha ha rfl (equalEigs_self hat a)

theorem comm_trans_holds : ∀ a b c : Fin p.d, p.commuting (p.blk a.val) = true → p.keptE a.val b.val = true →
    p.keptE c.val b.val = true → p.keptE a.val c.val = true :=
  fun a b c hc hab hcb => keptE_trans a.val b.val c.val hc hab hcb

variable (p) in
/-- the facts about the *input* alone that the theorems need, whatever the form of `fully_diagonalize`; the energies of different blocks are apart twice:
for the solver's absolute test (`blocks_apart`) and for the relative test made at first use (`no_shared`) -/
structure InputFacts : Prop where
  wf : ∀ t ∈ p.terms, t.2.d = p.d
  blocks_lt : ∀ a : Fin p.d, p.blk a.val < p.nblocks
  atol_nonneg : 0 ≤ p.atol
  herm : ∀ t ∈ p.terms, ∀ a b : Fin p.d, star (t.2.get b.val a.val) = t.2.get a.val b.val
  h0_diag : ∀ t ∈ p.terms, t.1 = p.zeroOrder → ∀ a b : Fin p.d, a ≠ b → t.2.get a.val b.val = 0
  blocks_apart : ∀ a b : Fin p.d, p.blk a.val ≠ p.blk b.val → Scalar.absGt (p.energy a.val - p.energy b.val) p.atol = true
  no_shared : ∀ a b : Fin p.d, p.blk a.val ≠ p.blk b.val → Scalar.isClose (p.energy a.val) (p.energy b.val) = false

instance InputFacts.decidable : Decidable p.InputFacts :=
  decidable_of_iff (_ ∧ _ ∧ _ ∧ _ ∧ _ ∧ _ ∧ _)
    ⟨fun ⟨a, b, c, d, e, f, g⟩ => ⟨a, b, c, d, e, f, g⟩,
      fun h => ⟨h.wf, h.blocks_lt, h.atol_nonneg, h.herm, h.h0_diag, h.blocks_apart, h.no_shared⟩⟩

theorem InputFacts.accepted (h : p.InputFacts)
    (hsym : ∀ a b : Fin p.d, p.blk a.val = p.blk b.val → p.elim a.val b.val = p.elim b.val a.val)
    (hspare : ∀ a b : Fin p.d, p.blk a.val = p.blk b.val → p.elim a.val b.val = true → p.equalEigs a.val b.val = false) :
    p.Accepted where
  __ := h
  elim_symm := by
    intro a b hblk
    unfold elimIn
    rw [hblk, hsym a b hblk]
  diag_kept := fun a => keptE_of_not_elim rfl (by
    by_contra he
    have := hspare a a rfl (eq_true_of_ne_false he)
    rw [equalEigs_self h.atol_nonneg] at this
    cases this)
  gap := by
    intro a b hk
    by_cases hblk : p.blk a.val = p.blk b.val
    · exact equalEigs_eq_false.mp (hspare a b hblk (elim_of_not_keptE hblk hk))
    · exact h.blocks_apart a b hblk
  comm_trans := comm_trans_holds

theorem elim_symm_of_no_masks (hfd : ∀ l, p.fdEff ≠ .dict l) (a b : Nat) : p.elim a b = p.elim b a := by
  unfold elim
  cases h : p.fdEff with
  | none => rfl
  | tuple l => simp only [sameLevel_symm a b]
  | dict l => exact absurd h (hfd l)

omit [LawfulThresholds K] in
theorem elim_spares_of_no_masks (hfd : ∀ l, p.fdEff ≠ .dict l) {a b : Nat} (ha : a < p.d) (hb : b < p.d) (hblk : p.blk a = p.blk b)
    (hel : p.elim a b = true) : p.equalEigs a b = false := by
  unfold elim at hel
  cases h : p.fdEff with
  | none => simp only [h] at hel; cases hel
  | tuple l =>
    simp only [h] at hel
    exact not_close_of_not_sameLevel ha hb hblk (by simpa using hel)
  | dict l => exact absurd h (hfd l)

omit [LawfulThresholds K] in
/-- inside a block that is fully diagonalised by its list form the masks and the solver's denominators cannot disagree: what is not kept there is divided
by (`|ΔE| > atol`; D38 is the case `|ΔE| = atol`) -/
theorem gap_same_block_tuple {a b : Nat} (ha : a < p.d) (hb : b < p.d) (hblk : p.blk a = p.blk b) {l : List Nat} (hfd : p.fdEff = .tuple l)
    (hk : p.keptE a b = false) : Scalar.absGt (p.energy a - p.energy b) p.atol = true :=
  equalEigs_eq_false.mp (elim_spares_of_no_masks (fun l' h => by rw [hfd] at h; cases h) ha hb hblk (elim_of_not_keptE hblk hk))

variable (p) in
/-- the input facts for the list form (or the absence) of `fully_diagonalize` -/
structure InputOK : Prop where
  wf : ∀ t ∈ p.terms, t.2.d = p.d
  blocks_lt : ∀ a : Fin p.d, p.blk a.val < p.nblocks
  atol_nonneg : 0 ≤ p.atol
  herm : ∀ t ∈ p.terms, ∀ a b : Fin p.d, star (t.2.get b.val a.val) = t.2.get a.val b.val
  h0_diag : ∀ t ∈ p.terms, t.1 = p.zeroOrder → ∀ a b : Fin p.d, a ≠ b → t.2.get a.val b.val = 0
  blocks_apart : ∀ a b : Fin p.d, p.blk a.val ≠ p.blk b.val → Scalar.absGt (p.energy a.val - p.energy b.val) p.atol = true
  no_shared : ∀ a b : Fin p.d, p.blk a.val ≠ p.blk b.val → Scalar.isClose (p.energy a.val) (p.energy b.val) = false
  no_masks : ∀ l, p.fdEff ≠ .dict l

omit [LawfulThresholds K] in
/-- the default serves a concrete problem, whose `fdEff` evaluates to `none` or to a `tuple` -/
theorem InputFacts.inputOK (h : p.InputFacts) (hm : ∀ l, p.fdEff ≠ .dict l := by nofun) : p.InputOK :=
  { h with no_masks := hm }

theorem InputOK.accepted (h : p.InputOK) : p.Accepted :=
  InputFacts.accepted { h with }
    (fun a b _ => elim_symm_of_no_masks h.no_masks a.val b.val) (fun a b => elim_spares_of_no_masks h.no_masks a.isLt b.isLt)

variable (p) in
/-- for masks given by the caller (`fully_diagonalize` a dictionary): the input facts, and the two facts about the masks that `block_diagonalize` checks -/
structure MasksOK : Prop where
  wf : ∀ t ∈ p.terms, t.2.d = p.d
  blocks_lt : ∀ a : Fin p.d, p.blk a.val < p.nblocks
  atol_nonneg : 0 ≤ p.atol
  herm : ∀ t ∈ p.terms, ∀ a b : Fin p.d, star (t.2.get b.val a.val) = t.2.get a.val b.val
  h0_diag : ∀ t ∈ p.terms, t.1 = p.zeroOrder → ∀ a b : Fin p.d, a ≠ b → t.2.get a.val b.val = 0
  blocks_apart : ∀ a b : Fin p.d, p.blk a.val ≠ p.blk b.val → Scalar.absGt (p.energy a.val - p.energy b.val) p.atol = true
  no_shared : ∀ a b : Fin p.d, p.blk a.val ≠ p.blk b.val → Scalar.isClose (p.energy a.val) (p.energy b.val) = false
  masks : ∃ l, p.fdEff = .dict l
  mask_symmetric : ∀ a b : Fin p.d, p.blk a.val = p.blk b.val → p.elim a.val b.val = p.elim b.val a.val
  mask_spares_equal_levels : ∀ a b : Fin p.d, p.blk a.val = p.blk b.val → p.elim a.val b.val = true → p.equalEigs a.val b.val = false

theorem MasksOK.accepted (h : p.MasksOK) : p.Accepted :=
  InputFacts.accepted { h with } h.mask_symmetric h.mask_spares_equal_levels

variable (p) in
/-- `Accepted` without its transitivity clause -/
structure AcceptedCore : Prop where
  wf : ∀ t ∈ p.terms, t.2.d = p.d
  blocks_lt : ∀ a : Fin p.d, p.blk a.val < p.nblocks
  atol_nonneg : 0 ≤ p.atol
  herm : ∀ t ∈ p.terms, ∀ a b : Fin p.d, star (t.2.get b.val a.val) = t.2.get a.val b.val
  h0_diag : ∀ t ∈ p.terms, t.1 = p.zeroOrder → ∀ a b : Fin p.d, a ≠ b → t.2.get a.val b.val = 0
  elim_symm : ∀ a b : Fin p.d, p.blk a.val = p.blk b.val → p.elimIn a.val b.val = p.elimIn b.val a.val
  diag_kept : ∀ a : Fin p.d, p.keptE a.val a.val = true
  gap : ∀ a b : Fin p.d, p.keptE a.val b.val = false →
    Scalar.absGt (p.energy a.val - p.energy b.val) p.atol = true
  no_shared : ∀ a b : Fin p.d, p.blk a.val ≠ p.blk b.val →
    Scalar.isClose (p.energy a.val) (p.energy b.val) = false

theorem AcceptedCore.accepted (h : p.AcceptedCore) : p.Accepted :=
  { h with comm_trans := comm_trans_holds }

omit [LawfulThresholds K] in
theorem Accepted.core (h : p.Accepted) : p.AcceptedCore :=
  { h with }

end Problem
end BlockDiag
end Pyma
