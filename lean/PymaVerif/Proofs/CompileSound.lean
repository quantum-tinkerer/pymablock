/-
C09, first half: the reference compiler, at the level of syntax.  Compiled code gets a ring-level denotation of its
own (`cSem`, `cStmtSem`) and a well-formedness (`wfc`, `wfl`, `stmtWF`: what the soundness of the evaluator asks of
the code it runs).  The compiler emits well-formed code (`wfc_compileExpr`, `stmtWF_compile`), and a purely syntactic
induction identifies the denotation of what it emits with the one-step semantics of the source (`cSem_compileExpr`,
`cStmtSem_compile`): the flattening, re-association and sign pushing of the compiler disappear into ring laws.  That
the evaluator of compiled bodies computes `cStmtSem` is the second half (`CompileEval`).
-/
import PymaVerif.Model.CBody
import PymaVerif.Proofs.StepSem
import Mathlib.Tactic.Abel

namespace Pyma
namespace Dsl

variable {K : Type} [Field K] [StarRing K] [DecidableEq K] [Thresholds K]
variable {B : Blocks} {p : Prog} {env : Env K}

/-- an argument list denotes the sum of its elements; `R` is the current value of `result` -/
noncomputable def cSem (S : EnvSem B env) (p : Prog) (idx : Idx) (R : MatK K B) : CExpr → MatK K B
  | .result => R
  | .zero => 0
  | .elem x sw => mat B p env x (if sw then idx.swap else idx)
  | .serArg x => mat B p env x idx
  | .dagger e => (cSem S p idx R e).conjTranspose
  | .neg e => -cSem S p idx R e
  | .zsum a => cSem S p idx R a
  | .sdiv e k => ((k : K)⁻¹) • cSem S p idx R e
  | .call f (.acons (.serArg x) .anil) =>
      if f == "diag" then S.diag (mat B p env x idx) idx
      else if f == "offdiag" then S.offdiag (mat B p env x idx) idx
      else S.fnSer f x idx
  | .call f a =>
      if f == "diag" then S.diag (cSem S p idx R a) idx
      else if f == "offdiag" then S.offdiag (cSem S p idx R a) idx
      else S.fnVal f (cSem S p idx R a) idx
  | .ite fl t e => if evalFlag env idx fl then cSem S p idx R t else cSem S p idx R e
  | .anil => 0
  | .acons h t => cSem S p idx R h + cSem S p idx R t

mutual
/-- `Dagger` is applied to elements only, and an element with swapped index occurs only under `Dagger` -/
def wfc (dOK : Bool) : CExpr → Bool
  | .result => true
  | .zero => true
  | .elem _ sw => !sw
  | .serArg _ => false
  | .dagger (.elem _ sw) => sw || dOK
  | .dagger _ => false
  | .neg e => wfc dOK e
  | .zsum a => wfl dOK a
  | .sdiv e _ => wfc dOK e
  | .call _ (.acons (.serArg _) .anil) => true
  | .call _ (.acons e .anil) => wfc dOK e
  | .call _ _ => false
  | .ite _ t e => wfc dOK t && wfc dOK e
  | .anil => false
  | .acons _ _ => false
def wfl (dOK : Bool) : CExpr → Bool
  | .anil => true
  | .acons h t => wfc dOK h && wfl dOK t
  | _ => false
end

variable {S : EnvSem B env} {idx : Idx} {R : MatK K B}

theorem cSem_ofList (l : List CExpr) : cSem S p idx R (CExpr.ofList l) = (l.map (cSem S p idx R)).sum := by
  induction l with
  | nil => simp [CExpr.ofList, cSem]
  | cons x xs ih => simp [CExpr.ofList, cSem, ih]

theorem wfl_ofList (dOK : Bool) (l : List CExpr) : wfl dOK (CExpr.ofList l) = l.all (wfc dOK) := by
  induction l with
  | nil => simp [CExpr.ofList, wfl]
  | cons x xs ih => simp [CExpr.ofList, wfl, ih]

theorem cargs_toList_ofList (l : List CExpr) : CExpr.sumArgs.toList (CExpr.ofList l) = l := by
  induction l with
  | nil => rfl
  | cons x xs ih => simp [CExpr.ofList, CExpr.sumArgs.toList, ih]

/-- why flattening (`sumArgs`) loses neither well-formedness (`wfc_sumArgs`) nor meaning (`sum_sumArgs`) -/
theorem cargs_ofList_toList {dOK : Bool} {a : CExpr} : wfl dOK a = true → CExpr.ofList (CExpr.sumArgs.toList a) = a := by
  induction a with
  | anil => exact fun _ => rfl
  | acons h t _ iht =>
    intro hw
    simp only [wfl, Bool.and_eq_true] at hw
    simp only [CExpr.sumArgs.toList, CExpr.ofList, iht hw.2]
  | _ => nofun

theorem wfc_sumArgs {dOK : Bool} {ce : CExpr} (h : wfc dOK ce = true) : ce.sumArgs.all (wfc dOK) = true := by
  cases ce with
  | zsum a => rw [CExpr.sumArgs, ← wfl_ofList, cargs_ofList_toList h]; exact h
  | _ => exact (Bool.and_true _).trans h

theorem sum_sumArgs {dOK : Bool} {ce : CExpr} (h : wfc dOK ce = true) :
    (ce.sumArgs.map (cSem S p idx R)).sum = cSem S p idx R ce := by
  cases ce with
  | zsum a => rw [CExpr.sumArgs, ← cSem_ofList, cargs_ofList_toList h]; rfl
  | _ => exact add_zero _

theorem cSem_negate (ce : CExpr) : cSem S p idx R (CExpr.negate ce) = -cSem S p idx R ce := by
  cases ce with
  | neg e => exact (neg_neg _).symm
  | _ => rfl

theorem wfc_negate (dOK : Bool) (ce : CExpr) : wfc dOK (CExpr.negate ce) = wfc dOK ce := by
  cases ce <;> rfl

theorem sum_map_negate (l : List CExpr) :
    ((l.map CExpr.negate).map (cSem S p idx R)).sum = -(l.map (cSem S p idx R)).sum := by
  induction l with
  | nil => simp
  | cons x xs ih =>
    simp only [List.map_cons, List.sum_cons, cSem_negate]
    rw [ih]; abel

/-- source expressions do not call the two functions the compiler itself inserts -/
def Expr.noReserved : Expr → Bool
  | .ser _ => true
  | .adj _ => true
  | .neg e => noReserved e
  | .add a b => noReserved a && noReserved b
  | .sub a b => noReserved a && noReserved b
  | .divInt e _ => noReserved e
  | .callSer f _ => f != "diag" && f != "offdiag"
  | .callExpr f e => f != "diag" && f != "offdiag" && noReserved e
  | .zero => true
  | .ite _ t e => noReserved t && noReserved e

theorem compileExpr_not_serArg (dg : Bool) (e : Expr) (x : String) : compileExpr dg e ≠ .serArg x := by
  cases e <;> exact CExpr.noConfusion

theorem cSem_single (h : CExpr) : cSem S p idx R (.acons h .anil) = cSem S p idx R h :=
  add_zero (cSem S p idx R h)

theorem cSem_call_val {f : String} {hh : CExpr} (hns : ∀ x, hh ≠ .serArg x) :
    cSem S p idx R (.call f (.acons hh .anil)) =
      if f == "diag" then S.diag (cSem S p idx R hh) idx
      else if f == "offdiag" then S.offdiag (cSem S p idx R hh) idx
      else S.fnVal f (cSem S p idx R hh) idx := by
  rw [← cSem_single hh]
  cases hh with
  | serArg x => exact absurd rfl (hns x)
  | _ => rfl

theorem wfc_call_val {dOK : Bool} {f : String} {hh : CExpr} (hns : ∀ x, hh ≠ .serArg x) :
    wfc dOK (.call f (.acons hh .anil)) = wfc dOK hh := by
  cases hh with
  | serArg x => exact absurd rfl (hns x)
  | _ => rfl

theorem wfc_compileExpr (dg : Bool) (e : Expr) : wfc dg (compileExpr dg e) = true := by
  induction e with
  | ser x => rfl
  | adj x => cases dg <;> rfl
  | neg e ih => exact ih
  | add a b iha ihb =>
    simp only [compileExpr, wfc, wfl_ofList, List.all_append, Bool.and_eq_true]
    exact ⟨wfc_sumArgs iha, wfc_sumArgs ihb⟩
  | sub a b iha ihb =>
    simp only [compileExpr, wfc, wfl_ofList, List.all_append, List.all_map, Function.comp_def, wfc_negate,
      Bool.and_eq_true]
    exact ⟨wfc_sumArgs iha, wfc_sumArgs ihb⟩
  | divInt e k ih => exact ih
  | callSer f x => rfl
  | callExpr f e ih => exact (wfc_call_val (compileExpr_not_serArg dg e)).trans ih
  | zero => rfl
  | ite fl t e iht ihe => simp only [compileExpr, wfc, iht, ihe, Bool.and_self]

theorem cSem_compileExpr (dg : Bool) (hdg : dg = true → idx.swap = idx) (e : Expr) :
    e.noReserved = true → cSem S p idx R (compileExpr dg e) = exprSem S p idx e := by
  induction e with
  | ser x => exact fun _ => rfl
  | adj x =>
    intro _
    cases dg
    · rfl
    · simp only [compileExpr, cSem, exprSem, Bool.not_true, Bool.false_eq_true, ↓reduceIte, hdg rfl]
  | neg e ih => intro h; simp only [compileExpr, cSem, exprSem, ih h]
  | add a b iha ihb =>
    intro h
    simp only [Expr.noReserved, Bool.and_eq_true] at h
    simp only [compileExpr, cSem, exprSem, cSem_ofList, List.map_append, List.sum_append,
      sum_sumArgs (wfc_compileExpr dg a), sum_sumArgs (wfc_compileExpr dg b), iha h.1, ihb h.2]
  | sub a b iha ihb =>
    intro h
    simp only [Expr.noReserved, Bool.and_eq_true] at h
    simp only [compileExpr, cSem, exprSem, cSem_ofList, List.map_append, List.sum_append, sum_map_negate,
      sum_sumArgs (wfc_compileExpr dg a), sum_sumArgs (wfc_compileExpr dg b), iha h.1, ihb h.2]
    abel
  | divInt e k ih => intro h; simp only [compileExpr, cSem, exprSem, ih h]
  | callSer f x =>
    intro h
    simp only [Expr.noReserved, Bool.and_eq_true, bne_iff_ne, ne_eq] at h
    simp only [compileExpr, CExpr.ofList, cSem, exprSem, beq_iff_eq, h.1, h.2, ↓reduceIte]
  | callExpr f e ih =>
    intro h
    simp only [Expr.noReserved, Bool.and_eq_true, bne_iff_ne, ne_eq] at h
    simp only [compileExpr, CExpr.ofList, exprSem]
    rw [cSem_call_val (compileExpr_not_serArg dg e), ih h.2]
    simp only [beq_iff_eq, h.1.1, h.1.2, ↓reduceIte]
  | zero => exact fun _ => rfl
  | ite fl t e iht ihe =>
    intro h
    simp only [Expr.noReserved, Bool.and_eq_true] at h
    simp only [compileExpr, cSem, exprSem, iht h.1, ihe h.2]

noncomputable def cStmtSem (S : EnvSem B env) (p : Prog) (idx : Idx) : List CStmt → MatK K B → MatK K B
  | [], R => R
  | .assign e :: rest, R => cStmtSem S p idx rest (cSem S p idx R e)
  | .lower e :: rest, R => if idx.i > idx.j then cSem S p idx R e else cStmtSem S p idx rest R
  | .diag e :: rest, R =>
      if (idx.i == idx.j) = true then cStmtSem S p idx rest (cSem S p idx R e) else cStmtSem S p idx rest R
  | .off e :: rest, R =>
      if (idx.i != idx.j) = true then cStmtSem S p idx rest (cSem S p idx R e) else cStmtSem S p idx rest R
  | .offwrap e :: rest, R =>
      if (env.offdiag.isSome && idx.i == idx.j) = true then cStmtSem S p idx rest (cSem S p idx R e)
      else cStmtSem S p idx rest R

theorem cSem_accumulate {dOK : Bool} {ce : CExpr} (h : wfc dOK ce = true) :
    cSem S p idx R (accumulate ce) = R + cSem S p idx R ce := by
  simp only [accumulate, cSem, cSem_ofList, List.map_cons, List.sum_cons, sum_sumArgs h]

theorem wfc_accumulate {dOK : Bool} {ce : CExpr} (h : wfc dOK ce = true) : wfc dOK (accumulate ce) = true := by
  simp only [accumulate, wfc, wfl_ofList, List.all_cons, wfc_sumArgs h, Bool.and_self]

def Stmt.noReserved : Stmt → Bool
  | .marker _ => true
  | .clause _ e => e.noReserved

theorem wfc_wrapCall (f : String) (dg : Bool) (e : Expr) : wfc dg (wrapCall f dg e) = true := by
  cases e with
  | ser x => rfl
  -- off a bare series name, `wrapCall f dg e` is `compileExpr dg (.callExpr f e)`
  | _ => exact wfc_compileExpr dg (.callExpr f _)

/-- `diag(e)` / `offdiag(e)` as the compiler writes them (a bare series name is passed as a series) -/
theorem cSem_wrapCall {f : String} (hf : f = "diag" ∨ f = "offdiag") (dg : Bool)
    (hdg : dg = true → idx.swap = idx) (e : Expr) (he : e.noReserved = true) :
    cSem S p idx R (wrapCall f dg e) =
      (if f = "diag" then S.diag else S.offdiag) (exprSem S p idx e) idx := by
  have hsel : ∀ X c,
      (if f == "diag" then S.diag X idx else if f == "offdiag" then S.offdiag X idx else c)
        = (if f = "diag" then S.diag else S.offdiag) X idx := by
    rcases hf with rfl | rfl <;> simp
  cases e with
  | ser x => exact hsel _ _
  | _ =>
    simp only [wrapCall, CExpr.ofList]
    rw [cSem_call_val (compileExpr_not_serArg dg _), cSem_compileExpr dg hdg _ he]
    exact hsel _ _

theorem wfc_marker (self : String) (anti : Bool) :
    wfc false (if anti then .neg (.dagger (.elem self true)) else .dagger (.elem self true)) = true := by
  cases anti <;> rfl

theorem swap_of_diag {idx : Idx} (h : (idx.i == idx.j) = true) : idx.swap = idx := by
  obtain ⟨i, j, n⟩ := idx
  obtain rfl : i = j := by simpa using h
  rfl

/-- **C09, ring level**: the compiled body of a series denotes the one-step semantics of its clauses -/
theorem cStmtSem_compile (self : String) (body : List Stmt) (hb : ∀ st ∈ body, st.noReserved = true) :
    ∀ R, cStmtSem S p idx (body.flatMap (compileStmt self)) R = bodySem S p self idx body R := by
  induction body with
  | nil => intro R; rfl
  | cons st rest ih =>
    intro R
    have ih' := ih (fun st' h => hb st' (List.mem_cons_of_mem _ h))
    have hst := hb st (List.mem_cons_self)
    rw [List.flatMap_cons]
    cases st with
    | marker anti =>
      simp only [compileStmt, List.cons_append, List.nil_append, cStmtSem, bodySem]
      rw [cSem_accumulate (wfc_marker self anti), ih' R]
      cases anti <;> rfl
    | clause cd e =>
      have he : e.noReserved = true := hst
      cases cd with
      | default =>
        simp only [compileStmt, List.cons_append, List.nil_append, cStmtSem, bodySem]
        rw [cSem_accumulate (wfc_compileExpr false e),
          cSem_compileExpr false (fun h => by cases h) e he]
        exact ih' _
      | diagonal =>
        simp only [compileStmt, List.cons_append, List.nil_append, cStmtSem, bodySem]
        by_cases hd : (idx.i == idx.j) = true
        · have hsw := swap_of_diag hd
          simp only [hd, ↓reduceIte]
          rw [cSem_accumulate (wfc_wrapCall _ true e),
            cSem_wrapCall (.inl rfl) true (fun _ => hsw) e he, if_pos rfl]
          exact ih' _
        · simp only [hd, Bool.false_eq_true, ↓reduceIte]; exact ih' R
      | offdiagonal =>
        simp only [compileStmt, List.cons_append, List.nil_append, cStmtSem, bodySem]
        by_cases hne : (idx.i != idx.j) = true
        · have heq : (idx.i == idx.j) = false := by simpa using hne
          simp only [hne, ↓reduceIte, heq, Bool.and_false, Bool.false_eq_true]
          rw [cSem_accumulate (wfc_compileExpr false e),
            cSem_compileExpr false (fun h => by cases h) e he]
          exact ih' _
        · have heq : (idx.i == idx.j) = true := by simpa using hne
          simp only [hne, Bool.false_eq_true, ↓reduceIte, heq, Bool.and_true]
          cases ho : env.offdiag with
          | none => simp only [Option.isSome_none, Bool.false_eq_true, ↓reduceIte]; exact ih' R
          | some od =>
            simp only [Option.isSome_some, ↓reduceIte]
            rw [cSem_accumulate (wfc_wrapCall _ false e),
              cSem_wrapCall (.inr rfl) false (fun h => by cases h) e he, if_neg (by decide)]
            exact ih' _
      | lower =>
        simp only [compileStmt, List.cons_append, List.nil_append, cStmtSem, bodySem]
        rw [cSem_accumulate (wfc_compileExpr false e),
          cSem_compileExpr false (fun h => by cases h) e he, ih' R]

/-- `Dagger` of an unswapped element in diagonal clauses only -/
def stmtWF : CStmt → Prop
  | .assign e => wfc false e = true
  | .lower e => wfc false e = true
  | .off e => wfc false e = true
  | .offwrap e => wfc false e = true
  | .diag e => wfc true e = true

theorem stmtWF_compileStmt (self : String) : ∀ s : Stmt, ∀ st ∈ compileStmt self s, stmtWF st
  | .marker anti => List.forall_mem_singleton.mpr (wfc_accumulate (wfc_marker self anti))
  | .clause .default e => List.forall_mem_singleton.mpr (wfc_accumulate (wfc_compileExpr false e))
  | .clause .diagonal e => List.forall_mem_singleton.mpr (wfc_accumulate (wfc_wrapCall "diag" true e))
  | .clause .offdiagonal e => List.forall_mem_cons.mpr ⟨wfc_accumulate (wfc_compileExpr false e),
      List.forall_mem_singleton.mpr (wfc_accumulate (wfc_wrapCall "offdiag" false e))⟩
  | .clause .lower e => List.forall_mem_singleton.mpr (wfc_accumulate (wfc_compileExpr false e))

theorem stmtWF_compile (self : String) (body : List Stmt) : ∀ st ∈ body.flatMap (compileStmt self), stmtWF st := by
  intro st hst
  obtain ⟨s, _, hs⟩ := List.mem_flatMap.mp hst
  exact stmtWF_compileStmt self s st hs

end Dsl
end Pyma

#print axioms Pyma.Dsl.cStmtSem_compile
