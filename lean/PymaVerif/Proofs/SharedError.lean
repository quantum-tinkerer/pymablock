/-
C20, coupled blocks that share an unperturbed energy: in the model of `block_diagonalize` no element
`V[i,j,n]` (the generator of the transformation, hence `U`, `U†`, `H̃` beyond what is pinned) has a value
unless the right-hand side handed to the Sylvester solver is the `zero` sentinel — the only case in which
`solve_sylvester_diagonal` does not reach its "subspaces must not share eigenvalues" check.  So the
evaluation raises no later than the first request that needs the ill-defined quantity, at whatever
order and in whichever pair of blocks the offending pair sits.
-/
import PymaVerif.Proofs.MainKinds
import PymaVerif.Proofs.DslSound
import PymaVerif.Proofs.WitnessProblems

namespace Pyma
namespace BlockDiag
open Dsl Generated
namespace Problem

variable {K : Type} [Scalar K] (p : Problem K)

/-- the test `solve_sylvester_diagonal` makes on first use of a pair of blocks -/
def sharedPair (i j : Nat) : Bool :=
  i != j && (List.range p.d).any fun a => (List.range p.d).any fun b =>
    p.inBlock i j a b && Scalar.isClose (p.energy a) (p.energy b)

/-- the right-hand side of the Sylvester equation for `V` in `main` -/
def Vrhs : Expr := .sub (.sub (.adj "Yadj") (.ser "V @ H'_diag")) (.adj "V @ H'_diag")

theorem solve_shared (idx : Idx) (h : p.sharedPair idx.i idx.j = true) (y : Mat K) :
    p.env.fn "solve_sylvester" (.inr (.val y)) idx =
      .error (.scope "ValueError: The subspaces must not share eigenvalues.") := by
  unfold sharedPair at h
  simp only [env, solveSylvester, beq_self_eq_true, if_true, h]
  rfl

theorem solve_one (idx : Idx) : p.env.fn "solve_sylvester" (.inr .one) idx = .error .oneInArithmetic := by
  simp only [env, solveSylvester, beq_self_eq_true, if_true]
  rfl

theorem call_shared {P : Prog} (idx : Idx) (hsh : p.sharedPair idx.i idx.j = true) {rhs : Expr} {v : SVal K}
    (he : DenE P p.env (.callExpr "solve_sylvester" rhs) idx v) : DenE P p.env rhs idx .zero := by
  cases he with
  | callExpr hy hfn =>
    rename_i y
    cases y with
    | zero => exact hy
    | one => rw [p.solve_one] at hfn; cases hfn
    | val m => rw [p.solve_shared idx hsh m] at hfn; cases hfn

theorem den_series {P : Prog} {env : Env K} {x : String} {d : SeriesDef} {idx : Idx} {v : SVal K}
    (hk : kindOf P env x = .series d) (h : Den P env x idx v) :
    startVal env d.start idx = some v ∨ DenB P env x idx d.body .zero v := by
  cases h with
  | input hk' => rw [hk] at hk'; cases hk'
  | product hk' _ => rw [hk] at hk'; cases hk'
  | pinned hk' hs => rw [hk] at hk'; cases hk'; exact .inl hs
  | body hk' _ hb => rw [hk] at hk'; cases hk'; exact .inr hb

/-- **C20 (shared eigenvalue)** -/
theorem C20_shared (i j : Nat) (n : List Nat) (hij : i < j) (hsh : p.sharedPair i j = true) (v : SVal K)
    (h : Den main p.env "V" ⟨i, j, n⟩ v) :
    startVal p.env .zero ⟨i, j, n⟩ = some v ∨ DenE main p.env Vrhs ⟨i, j, n⟩ .zero := by
  have hne : (i != j) = true := by simp; omega
  refine (den_series (kindOf_series (by rfl) find_V) h).imp_right fun hb => ?_
  cases hb with
  | markerHit hgt _ _ => exact absurd hgt (by simp only [gt_iff_lt]; omega)
  | markerMiss _ hb' =>
    cases hb' with
    | offHit _ he _ _ =>
      cases he with
      | neg he' _ => exact p.call_shared ⟨i, j, n⟩ hsh he'
    | offWrap hne2 _ _ _ _ => simp only [hne] at hne2; cases hne2
    | offSkip hne2 _ _ => simp only [hne] at hne2; cases hne2

/-- the same for the evaluator the driver runs, from any sound cache and with any fuel -/
theorem C20_shared_run (i j : Nat) (n : List Nat) (hij : i < j) (hsh : p.sharedPair i j = true)
    (fuel : Nat) (c c' : Cache K) (hc : CacheOK main p.env c) (v : SVal K)
    (hrun : getElem main p.env fuel "V" ⟨i, j, n⟩ c = .ok (v, c')) :
    startVal p.env .zero ⟨i, j, n⟩ = some v ∨ DenE main p.env Vrhs ⟨i, j, n⟩ .zero :=
  p.C20_shared i j n hij hsh v (getElem_sound main p.env fuel "V" _ c v c' hc hrun).1

/-- the right-hand side of the Sylvester equation for `U'` in `nonhermitian` -/
def Urhs : Expr := .add (.sub (.ser "X") (.ser "H'_diag @ U'")) (.ser "U' @ H'_diag")

theorem ndef_P' : seriesDefOf nonhermitian "U'" =
    { name := "U'", start := .zero,
      body := [.clause .diagonal (.divInt (.ser "U_inv' @ U'") (-2)),
               .clause .offdiagonal (.callExpr "solve_sylvester" Urhs)] } := by
  rw [seriesDefOf, nfind_P]
  rfl

/-- **C20 (shared eigenvalue), non-Hermitian algorithm**: both orientations of the pair -/
theorem C20_shared_nh (i j : Nat) (n : List Nat) (hij : i ≠ j) (hsh : p.sharedPair i j = true) (v : SVal K)
    (h : Den nonhermitian p.env "U'" ⟨i, j, n⟩ v) :
    startVal p.env .zero ⟨i, j, n⟩ = some v ∨ DenE nonhermitian p.env Urhs ⟨i, j, n⟩ .zero := by
  have hne : (i != j) = true := by simpa using hij
  have hne' : (i == j) = false := by simpa using hij
  refine (den_series (kindOf_series (by rfl) nfind_P) h).imp_right fun hb => ?_
  cases hb with
  | diagHit hd _ _ _ => simp only [hne'] at hd; cases hd
  | diagMiss _ hb' =>
    cases hb' with
    | offHit _ he _ _ => exact p.call_shared ⟨i, j, n⟩ hsh he
    | offWrap hne2 _ _ _ _ => simp only [hne] at hne2; cases hne2
    | offSkip hne2 _ _ => simp only [hne] at hne2; cases hne2

section witness
attribute [local instance] Scalar.ofField

theorem wShared_shared : wShared.sharedPair 0 1 = true := by decide +kernel

end witness

end Problem
end BlockDiag
end Pyma
#print axioms Pyma.BlockDiag.Problem.C20_shared
