/-
M1 (memo soundness) and M2 (fault containment) for the BlockSeries machine of `Model/Machine.lean`.  The runs of the machine are
described once by rules (`Runs`), which `run` follows for every fuel, and `getItem` is `run` on the script `get s i pure`; M1 and M2 are
inductions over these rules, restated for `run` and `getItem` by `sound` and `no_leftover`.
-/
import PymaVerif.Model.Machine

namespace Pyma
namespace Machine

variable {V : Type}

theorem find_filter_ne {β : Type} (l : List ((SId × Idx) × β)) (k k' : SId × Idx) :
    (l.filter (fun x => x.1 != k)).find? (fun x => x.1 == k') = if k' = k then none else l.find? (fun x => x.1 == k') := by
  rw [List.find?_filter]
  split
  · subst k'
    exact List.find?_eq_none.mpr fun x _ => by simp
  · rename_i h
    congr 1
    funext x
    by_cases hx : x.1 = k'
    · simp [hx, h]
    · simp [hx]

theorem World.get_set (w : World V) (s : SId) (i : Idx) (c : Option (Cell V)) (s' : SId) (i' : Idx) :
    (w.set s i c).get s' i' = if (s', i') = (s, i) then c else w.get s' i' := by
  unfold World.set World.get
  cases c with
  | none => simp only [find_filter_ne]; split <;> rfl
  | some c =>
    simp only [List.find?_cons, find_filter_ne]
    by_cases h : (s', i') = (s, i)
    · simp [h]
    · have : ((s, i) == (s', i')) = false := beq_eq_false_iff_ne.mpr (Ne.symm h)
      simp only [this, if_neg h]

abbrev World.enter (w : World V) (s : SId) (i : Idx) : World V :=
  { (w.set s i (some .pending)) with log := w.log ++ [(s, i)] }

/-- `Runs S sc w r`: the script `sc`, started in `w`, may end with `r` — an over-approximation of `run` (`runs`): one rule per branch of
`run` and `getItem` (a `get` finds the value, finds the marker, or evaluates the definition between `enter` and the clean-up), and the fuel
may run out anywhere.  It is there so that M1, M2 and "exactly once" are inductions over these rules, not over the fuel through `run` and
`getItem` at once. -/
inductive Runs (S : Sys V) : Script V → World V → Res V → Prop where
  | fuel {sc w} : Runs S sc w (.error .fuel, w)
  | pure {v w} : Runs S (.pure v) w (.ok v, w)
  | fail {e w} : Runs S (.fail e) w (.error e, w)
  | pop {s i k w r} : Runs S k (w.set s i none) r → Runs S (.pop s i k) w r
  | contains {s i k w r} :
      Runs S (k (match w.get s i with | some (.val v) => !S.isZero v | _ => true)) w r → Runs S (.contains s i k) w r
  | fault {cb arg k w e} : S.fault w.calls = some e → Runs S (.user cb arg k) w (.error e, { w with calls := w.calls + 1 })
  | user {cb arg k w r} : S.fault w.calls = none → Runs S (k (S.userSem cb arg)) { w with calls := w.calls + 1 } r →
      Runs S (.user cb arg k) w r
  | hit {s i k w v r} : w.get s i = some (.val v) → Runs S (k v) w r → Runs S (.get s i k) w r
  | cycle {s i k w} : w.get s i = some .pending → Runs S (.get s i k) w (.error .recursion, w)
  | evalOk {s i k w v w' r} : w.get s i = none → Runs S (S.defs s i) (w.enter s i) (.ok v, w') →
      Runs S (k v) (w'.set s i (some (.val v))) r → Runs S (.get s i k) w r
  | evalErr {s i k w e w'} : w.get s i = none → Runs S (S.defs s i) (w.enter s i) (.error e, w') →
      Runs S (.get s i k) w (.error (rewrap e), w'.set s i none)

theorem getItem_eq_run (S : Sys V) (f : Nat) (s : SId) (i : Idx) (w : World V) :
    getItem S f s i w = run S (f + 1) (.get s i .pure) w := by
  rw [run]
  rcases h : getItem S f s i w with ⟨_ | v, w'⟩
  · rfl
  · cases f with
    | zero => simp [getItem] at h
    | succ f => rfl

theorem runs (S : Sys V) : ∀ f sc w, Runs S sc w (run S f sc w) := by
  intro f
  -- a `get` with fuel `f + 2` evaluates the definition with fuel `f` and continues with fuel `f + 1`
  induction f using Nat.strongRecOn with
  | _ f ih =>
  intro sc w
  cases f with
  | zero => exact .fuel
  | succ f =>
    cases sc with
    | pure v => exact .pure
    | fail e => exact .fail
    | pop s i k => exact .pop (ih f (Nat.lt_succ_self f) k _)
    | contains s i k => exact .contains (ih f (Nat.lt_succ_self f) _ w)
    | user cb arg k =>
      rw [run]
      cases hf : S.fault w.calls with
      | some e => exact .fault hf
      | none => exact .user hf (ih f (Nat.lt_succ_self f) _ _)
    | get s i k =>
      rw [run]
      cases f with
      | zero => exact .fuel
      | succ f =>
        rw [getItem]
        cases hc : w.get s i with
        | some c =>
          cases c with
          | pending => exact .cycle hc
          | val v => exact .hit hc (ih (f + 1) (Nat.lt_succ_self _) _ w)
        | none =>
          have hd : Runs S (S.defs s i) (w.enter s i) _ := ih f (by omega) _ _
          simp only
          generalize run S f (S.defs s i) _ = res at hd ⊢
          obtain ⟨e | v, w'⟩ := res
          · exact .evalErr hc hd
          · exact .evalOk hc hd (ih (f + 1) (Nat.lt_succ_self _) _ _)

/-- the memo invariant of M1: every cached value is the denotation of its element -/
def Inv (den : SId → Idx → V) (w : World V) : Prop :=
  ∀ s i v, w.get s i = some (.val v) → v = den s i

/-- `ScriptOK S den sc x`: with every read answered by `den`, the script `sc` returns `x` or fails; a `contains` test may answer `true`
for any element, `false` only for one whose denotation is the zero sentinel -/
inductive ScriptOK (S : Sys V) (den : SId → Idx → V) : Script V → V → Prop where
  | pure (v) : ScriptOK S den (.pure v) v
  | fail (e r) : ScriptOK S den (.fail e) r
  | pop (s i k r) : ScriptOK S den k r → ScriptOK S den (.pop s i k) r
  | get (s i k r) : ScriptOK S den (k (den s i)) r → ScriptOK S den (.get s i k) r
  | contains (s i k r) : (∀ b, (b = false → S.isZero (den s i) = true) → ScriptOK S den (k b) r) →
      ScriptOK S den (.contains s i k) r
  | user (cb arg k r) : ScriptOK S den (k (S.userSem cb arg)) r → ScriptOK S den (.user cb arg k) r

/-- `den` solves the system: the script of every element, its reads answered by `den`, returns the element's own `den` -/
def Consistent (S : Sys V) (den : SId → Idx → V) : Prop :=
  ∀ s i, ScriptOK S den (S.defs s i) (den s i)

theorem inv_set {den : SId → Idx → V} {w : World V} (h : Inv den w) (s i) (c : Option (Cell V))
    (hc : ∀ v, c = some (.val v) → v = den s i) : Inv den (w.set s i c) := by
  intro s' i' v hv
  rw [World.get_set] at hv
  split at hv
  · rename_i he
    cases he
    exact hc v hv
  · exact h _ _ _ hv

theorem Runs.sound {S : Sys V} {den : SId → Idx → V} (hc : Consistent S den) {sc : Script V} {w : World V} {r : Res V}
    (h : Runs S sc w r) : ∀ x, Inv den w → ScriptOK S den sc x → Inv den r.2 ∧ ∀ v, r.1 = .ok v → v = x := by
  induction h with
  | fuel | fail | fault | cycle => exact fun x hw _ => ⟨hw, nofun⟩
  | pure => exact fun x hw (.pure _) => ⟨hw, fun v h => (Except.ok.inj h).symm⟩
  | pop _ ih => exact fun x hw (.pop _ _ _ _ hk) => ih x (inv_set hw _ _ none nofun) hk
  | @contains s i k w r _ ih =>
    intro x hw (.contains _ _ _ _ hk)
    refine ih x hw (hk _ fun hb => ?_)
    -- the test answers `false` only on a cached value, which is the denotation
    split at hb
    · rename_i v hv
      rw [← hw s i v hv]
      simpa using hb
    · cases hb
  | user _ _ ih => exact fun x hw (.user _ _ _ _ hk) => ih x hw hk
  | hit hv _ ih => exact fun x hw (.get _ _ _ _ hk) => ih x hw (hw _ _ _ hv ▸ hk)
  | @evalOk s i k w v w' r _ _ _ ihd ihk =>
    intro x hw (.get _ _ _ _ hk)
    obtain ⟨hw', hv⟩ := ihd (den s i) (inv_set hw s i (some .pending) nofun) (hc s i)
    cases hv v rfl
    exact ihk x (inv_set hw' s i _ fun v h => by cases h; rfl) hk
  | @evalErr s i k w e w' _ _ ihd =>
    intro x hw _
    exact ⟨inv_set (ihd (den s i) (inv_set hw s i (some .pending) nofun) (hc s i)).1 s i none nofun, nofun⟩

theorem getItem_sound {S : Sys V} {den : SId → Idx → V} (hc : Consistent S den) (f : Nat) (s : SId) (i : Idx) {w : World V}
    (hw : Inv den w) : Inv den (getItem S f s i w).2 ∧ ∀ v, (getItem S f s i w).1 = .ok v → v = den s i :=
  getItem_eq_run S f s i w ▸ (runs S _ _ w).sound hc _ hw (.get _ _ _ _ (.pure _))

/-- M1 + M2 (value part): any run from an `Inv` state ends in an `Inv` state — whether it
succeeds or fails, whatever the fault plan — and a returned value is the denotation. -/
theorem sound (S : Sys V) (den : SId → Idx → V) (hc : Consistent S den) :
    ∀ f,
      (∀ sc w r, Inv den w → ScriptOK S den sc r →
          Inv den (run S f sc w).2 ∧ ∀ v, (run S f sc w).1 = .ok v → v = r) ∧
      (∀ s i w, Inv den w →
          Inv den (getItem S f s i w).2 ∧ ∀ v, (getItem S f s i w).1 = .ok v → v = den s i) :=
  fun f => ⟨fun sc w r hw hok => (runs S f sc w).sound hc r hw hok, fun s i _ => getItem_sound hc f s i⟩

def PendSub (w' w : World V) : Prop :=
  ∀ s i, w'.get s i = some .pending → w.get s i = some .pending

theorem PendSub.refl (w : World V) : PendSub w w := fun _ _ h => h
theorem PendSub.trans {a b c : World V} (h1 : PendSub a b) (h2 : PendSub b c) : PendSub a c :=
  fun s i h => h2 s i (h1 s i h)

theorem pendSub_set {w : World V} {s i} (c : Option (Cell V)) (hc : c ≠ some .pending) : PendSub (w.set s i c) w := by
  intro s' i' h
  rw [World.get_set] at h
  split at h
  · exact absurd h hc
  · exact h

theorem pendSub_bracket {w w' : World V} {s i} {c : Option (Cell V)} (hc : c ≠ some .pending) (h : PendSub w' (w.enter s i)) :
    PendSub (w'.set s i c) w := by
  intro s' i' hp
  rw [World.get_set] at hp
  split at hp
  · exact absurd hp hc
  · rename_i hne
    have h2 : (w.set s i (some .pending)).get s' i' = some .pending := h s' i' hp
    rwa [World.get_set, if_neg hne] at h2

theorem Runs.pendSub {S : Sys V} {sc : Script V} {w : World V} {r : Res V} (h : Runs S sc w r) : PendSub r.2 w := by
  induction h with
  | fuel | pure | fail | fault | cycle => exact PendSub.refl _
  | pop _ ih => exact ih.trans (pendSub_set none nofun)
  | contains _ ih => exact ih
  | user _ _ ih => exact ih
  | hit _ _ ih => exact ih
  | evalOk _ _ _ ihd ihk => exact ihk.trans (pendSub_bracket nofun ihd)
  | evalErr _ _ ihd => exact pendSub_bracket nofun ihd

/-- M2 (marker part): after any run — successful or failed, under any fault plan — every `pending`
cell was already pending before it. In particular a top-level request leaves none behind. -/
theorem no_leftover (S : Sys V) :
    ∀ f,
      (∀ sc w, PendSub (run S f sc w).2 w) ∧
      (∀ s i w, PendSub (getItem S f s i w).2 w) :=
  fun f => ⟨fun sc w => (runs S f sc w).pendSub, fun s i w => getItem_eq_run S f s i w ▸ (runs S _ _ w).pendSub⟩

end Machine
end Pyma
#print axioms Pyma.Machine.no_leftover
