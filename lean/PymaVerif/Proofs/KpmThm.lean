/-
The loop of `kpm.greens_function` terminates and returns a solution within the requested accuracy, or warns and returns the last
solution computed (whose residue exceeds the accuracy).
-/
import PymaVerif.Model.Kpm

namespace Pyma
namespace Kpm

theorem loop_spec (resid : Nat → Rat) (atol : Rat) (maxM : Nat) :
    ∀ (fuel m : Nat) (last : Option Nat), (last.isSome = true ∨ m ≤ maxM) →
      (∀ l, last = some l → resid l > atol) → maxM < m * 4 ^ fuel →
      ∃ k, (loop resid atol maxM fuel m last).moments = some k ∧
        ((loop resid atol maxM fuel m last).warned = false → resid k ≤ atol) ∧
        ((loop resid atol maxM fuel m last).warned = true → resid k > atol)
  | fuel, m, last, h1, h2, hlt => by
    unfold loop
    by_cases hm : m > maxM
    · -- the loop stops with the warning, and some solution was computed before
      obtain ⟨l, hl⟩ := Option.isSome_iff_exists.mp (h1.resolve_right (Nat.not_le.mpr hm))
      rw [if_pos hm]
      exact ⟨l, hl, nofun, fun _ => h2 l hl⟩
    · rw [if_neg hm]
      -- (`match`, not `cases`: the recursion on `fuel` stays structural through it)
      match fuel, hlt with
      | 0, hlt => exact absurd (by simpa using hlt) hm
      | fuel + 1, hlt =>
        dsimp only
        by_cases hr : resid m > atol
        · rw [if_pos hr]
          refine loop_spec resid atol maxM fuel (4 * m) (some m) (.inl rfl) (fun l hl => by cases hl; exact hr) ?_
          rw [Nat.pow_succ] at hlt
          rw [Nat.mul_comm 4 m, Nat.mul_assoc, Nat.mul_comm 4]
          exact hlt
        · rw [if_neg hr]
          exact ⟨m, rfl, fun _ => Rat.not_lt.mp hr, nofun⟩

/-- **C16 (KPM, control flow)**: the call returns a solution (`sol` is bound); without a warning its residue is within the requested
accuracy, with the warning it is not.  The number of moments starts at `min(10, max_moments)` and is quadrupled, so `fuel` iterations
suffice once `max_moments < min(10, max_moments) · 4^fuel`. -/
theorem greens_spec (resid : Nat → Rat) (atol : Rat) {maxM fuel : Nat} (hfuel : maxM < min 10 maxM * 4 ^ fuel) :
    ∃ k, (greens resid atol maxM fuel).moments = some k ∧
      ((greens resid atol maxM fuel).warned = false → resid k ≤ atol) ∧
      ((greens resid atol maxM fuel).warned = true → resid k > atol) := by
  unfold greens
  exact loop_spec resid atol maxM fuel (min 10 maxM) none (.inr (Nat.min_le_right 10 maxM)) (fun l hl => by cases hl) hfuel

theorem greens_fuel {maxM : Nat} (h1 : 1 ≤ maxM) : maxM < min 10 maxM * 4 ^ maxM := by
  calc maxM < 4 ^ maxM := Nat.lt_pow_self (by decide)
    _ = 1 * 4 ^ maxM := (Nat.one_mul _).symm
    _ ≤ min 10 maxM * 4 ^ maxM := Nat.mul_le_mul_right _ (by omega)

example : greens (fun m => 1 / (m : Rat)) (1 / 100) 1000 5 = ⟨some 160, false⟩ := by decide +kernel
example : greens (fun m => 1 / (m : Rat)) (1 / 100000) 1000 5 = ⟨some 640, true⟩ := by decide +kernel
example : greens (fun m => 1 / (m : Rat)) (1 / 100) 5 3 = ⟨some 5, true⟩ := by decide +kernel          -- fewer than 10 moments allowed: the 5-moment solution, with the warning

end Kpm
end Pyma
