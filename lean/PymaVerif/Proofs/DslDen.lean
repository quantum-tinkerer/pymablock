/-
Relational (big-step) reference semantics of the mini-language.  Core Lean + Std only.
-/
import PymaVerif.Model.Dsl

namespace Pyma
namespace Dsl

variable {K : Type} [Scalar K]

/-- what is being evaluated (the inputs of a judgement) -/
inductive J (K : Type) where
  | elem (x : String) (idx : Idx)
  | expr (e : Expr) (idx : Idx)
  | body (self : String) (idx : Idx) (stmts : List Stmt) (acc : SVal K)
  | pairs (a b : String) (idx : Idx) (ps : List (Nat × List Nat × List Nat)) (acc : SVal K)

/-- big-step evaluation judgement `j ⇓ v` -/
inductive Holds (p : Prog) (env : Env K) : J K → SVal K → Prop where
  | ser {x idx v} : Holds p env (.elem x idx) v → Holds p env (.expr (.ser x) idx) v
  | adj {x idx v} : Holds p env (.elem x (idx.swap)) v → Holds p env (.expr (.adj x) idx) (vadj v)
  | neg {e idx v w} : Holds p env (.expr e idx) v → vneg v = .ok w → Holds p env (.expr (.neg e) idx) w
  | add {a b idx x y w} : Holds p env (.expr a idx) x → Holds p env (.expr b idx) y → vadd x y = .ok w →
      Holds p env (.expr (.add a b) idx) w
  | sub {a b idx x y w} : Holds p env (.expr a idx) x → Holds p env (.expr b idx) y →
      vsub x y = .ok w → Holds p env (.expr (.sub a b) idx) w
  | divInt {e k idx v w} : Holds p env (.expr e idx) v → vdiv v k = .ok w → Holds p env (.expr (.divInt e k) idx) w
  | callSer {f x idx w} : env.fn f (.inl x) idx = .ok w → Holds p env (.expr (.callSer f x) idx) w
  | callExpr {f e idx v w} : Holds p env (.expr e idx) v → env.fn f (.inr v) idx = .ok w →
      Holds p env (.expr (.callExpr f e) idx) w
  | zero {idx} : Holds p env (.expr .zero idx) .zero
  | iteT {fl t e idx v} : evalFlag env idx fl = true → Holds p env (.expr t idx) v → Holds p env (.expr (.ite fl t e) idx) v
  | iteF {fl t e idx v} : evalFlag env idx fl = false → Holds p env (.expr e idx) v → Holds p env (.expr (.ite fl t e) idx) v
  | bnil {self idx acc} : Holds p env (.body self idx [] acc) acc
  | markerHit {self idx anti rest acc v r} : idx.i > idx.j → Holds p env (.elem self (idx.swap)) v →
      markerVal anti acc v = .ok r →
      Holds p env (.body self idx (.marker anti :: rest) acc) r
  | markerMiss {self idx anti rest acc r} : ¬ idx.i > idx.j → Holds p env (.body self idx rest acc) r →
      Holds p env (.body self idx (.marker anti :: rest) acc) r
  | lowerHit {self idx e rest acc v r} : idx.i > idx.j → Holds p env (.expr e idx) v → vadd acc v = .ok r →
      Holds p env (.body self idx (.clause .lower e :: rest) acc) r
  | lowerMiss {self idx e rest acc r} : ¬ idx.i > idx.j → Holds p env (.body self idx rest acc) r →
      Holds p env (.body self idx (.clause .lower e :: rest) acc) r
  | diagHit {self idx e rest acc v acc' r} : (idx.i == idx.j) = true → Holds p env (.expr e idx) v →
      vadd acc (env.diag v idx) = .ok acc' → Holds p env (.body self idx rest acc') r →
      Holds p env (.body self idx (.clause .diagonal e :: rest) acc) r
  | diagMiss {self idx e rest acc r} : (idx.i == idx.j) = false → Holds p env (.body self idx rest acc) r →
      Holds p env (.body self idx (.clause .diagonal e :: rest) acc) r
  | offHit {self idx e rest acc v acc' r} : (idx.i != idx.j) = true → Holds p env (.expr e idx) v →
      vadd acc v = .ok acc' → Holds p env (.body self idx rest acc') r →
      Holds p env (.body self idx (.clause .offdiagonal e :: rest) acc) r
  | offWrap {self idx e rest acc v acc' r od} : (idx.i != idx.j) = false → env.offdiag = some od →
      Holds p env (.expr e idx) v → vadd acc (od v idx) = .ok acc' → Holds p env (.body self idx rest acc') r →
      Holds p env (.body self idx (.clause .offdiagonal e :: rest) acc) r
  | offSkip {self idx e rest acc r} : (idx.i != idx.j) = false → env.offdiag = none →
      Holds p env (.body self idx rest acc) r → Holds p env (.body self idx (.clause .offdiagonal e :: rest) acc) r
  | default {self idx e rest acc v acc' r} : Holds p env (.expr e idx) v → vadd acc v = .ok acc' →
      Holds p env (.body self idx rest acc') r → Holds p env (.body self idx (.clause .default e :: rest) acc) r
  | pnil {a b idx acc} : Holds p env (.pairs a b idx [] acc) acc
  | leftZero {a b idx m na nb rest acc r l} : cost na ≤ cost nb → Holds p env (.elem a ⟨idx.i, m, na⟩) l →
      l.isZeroS = true → Holds p env (.pairs a b idx rest acc) r → Holds p env (.pairs a b idx ((m, na, nb) :: rest) acc) r
  | leftThenRightZero {a b idx m na nb rest acc r l rr} : cost na ≤ cost nb →
      Holds p env (.elem a ⟨idx.i, m, na⟩) l → l.isZeroS = false → Holds p env (.elem b ⟨m, idx.j, nb⟩) rr →
      rr.isZeroS = true → Holds p env (.pairs a b idx rest acc) r → Holds p env (.pairs a b idx ((m, na, nb) :: rest) acc) r
  | rightZero {a b idx m na nb rest acc r rr} : ¬ cost na ≤ cost nb → Holds p env (.elem b ⟨m, idx.j, nb⟩) rr →
      rr.isZeroS = true → Holds p env (.pairs a b idx rest acc) r → Holds p env (.pairs a b idx ((m, na, nb) :: rest) acc) r
  | rightThenLeftZero {a b idx m na nb rest acc r l rr} : ¬ cost na ≤ cost nb →
      Holds p env (.elem b ⟨m, idx.j, nb⟩) rr → rr.isZeroS = false → Holds p env (.elem a ⟨idx.i, m, na⟩) l →
      l.isZeroS = true → Holds p env (.pairs a b idx rest acc) r → Holds p env (.pairs a b idx ((m, na, nb) :: rest) acc) r
  | both {a b idx m na nb rest acc acc' r l rr} : Holds p env (.elem a ⟨idx.i, m, na⟩) l → l.isZeroS = false →
      Holds p env (.elem b ⟨m, idx.j, nb⟩) rr → rr.isZeroS = false → vadd acc (vmul l rr) = .ok acc' →
      Holds p env (.pairs a b idx rest acc') r → Holds p env (.pairs a b idx ((m, na, nb) :: rest) acc) r
  | input {x idx} : kindOf p env x = .input → Holds p env (.elem x idx) (env.input x idx)
  | pinned {x d idx v} : kindOf p env x = .series d → startVal env d.start idx = some v →
      Holds p env (.elem x idx) v
  | body {x d idx v} : kindOf p env x = .series d → startVal env d.start idx = none →
      Holds p env (.body x idx d.body .zero) v → Holds p env (.elem x idx) v
  | product {x a b idx v} : kindOf p env x = .product a b →
      Holds p env (.pairs a b idx (pairsOf env.nblocks idx.n) .zero) v → Holds p env (.elem x idx) v

abbrev Den (p : Prog) (env : Env K) (x : String) (idx : Idx) (v : SVal K) : Prop := Holds p env (.elem x idx) v
abbrev DenE (p : Prog) (env : Env K) (e : Expr) (idx : Idx) (v : SVal K) : Prop := Holds p env (.expr e idx) v
abbrev DenB (p : Prog) (env : Env K) (self : String) (idx : Idx) (st : List Stmt) (acc r : SVal K) : Prop :=
  Holds p env (.body self idx st acc) r
abbrev DenP (p : Prog) (env : Env K) (a b : String) (idx : Idx) (ps : List (Nat × List Nat × List Nat))
    (acc r : SVal K) : Prop := Holds p env (.pairs a b idx ps acc) r


end Dsl
end Pyma
