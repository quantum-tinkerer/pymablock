/-
The series of `main` as formal power series over matrices: what each is at an entry (from `EntrySem`),
`Yadj` Hermitian, `V` anti-Hermitian, `W` Hermitian with `2 W = -(U'† U')` (`CoreFill`), and C02 for the
model: `U† U = 1`, `U† = star U`.  The adjoint of a block, which the evaluator reads at the swapped index,
is at an entry the conjugate of the transposed entry (`conjT_at`).
-/
import PymaVerif.Proofs.MainKinds
import PymaVerif.Proofs.ProblemSeries
import PymaVerif.Proofs.CoreH

namespace Pyma
namespace BlockDiag
open Dsl Generated MvPowerSeries
namespace Problem

variable {K : Type} [Field K] [StarRing K] [DecidableEq K] [Thresholds K]
attribute [local instance] Scalar.ofField
variable (p : Problem K)

def Total : Prop := ∀ x ∈ mainNames, ∀ idx, ∃ v, Den main p.env x idx v

noncomputable abbrev g (x : String) (n : List Nat) : MatK K p.blocks := G p.blocks main p.env x n

theorem conjT_at (x : String) (n : List Nat) (a b : Fin p.d) :
    (mat p.blocks main p.env x (Idx.swap ⟨p.blk a.val, p.blk b.val, n⟩)).conjTranspose a b
      = star (p.g x n b a) := rfl

theorem mat_swap_at (x : String) (n : List Nat) (a b : Fin p.d) :
    (mat p.blocks main p.env x (Idx.swap ⟨p.blk a.val, p.blk b.val, n⟩)).conjTranspose a b
      = (p.g x n).conjTranspose a b := p.conjT_at x n a b

theorem conjT_at' (x : String) (n : List Nat) (a b : Fin p.d) :
    (mat p.blocks main p.env x ⟨p.blk a.val, p.blk b.val, n⟩).conjTranspose a b
      = star (mat p.blocks main p.env x ⟨p.blk a.val, p.blk b.val, n⟩ b a) := rfl

theorem wrap_combine (hab : p.blk a = p.blk b) (Md Mo : K) :
    ((if p.elimIn a b then 0 else Md) + if p.elimIn a b then Mo else 0)
      = if p.keptE a b then Md else Mo := by
  simp only [keptE, hab, beq_self_eq_true, Bool.true_and]
  cases p.elimIn a b <;> simp

noncomputable abbrev sr (x : String) : Sr (Fin p.nparams) K p.d := Ser p.blocks main p.env p.nparams x

theorem coeff_sr (x : String) (m : Fin p.nparams →₀ ℕ) : coeff m (p.sr x) = p.g x (toList m) := rfl

structure Ready : Prop where
  wf : p.WF
  tot : p.Total
  hN : ∀ a : Fin p.d, p.blk a.val < p.nblocks

/-- the names of `main` whose series have no constant term, each before the names that show it -/
def mainZ : List String :=
  ["U'† @ U'", "H'_offdiag @ U'", "U'† @ B", "V @ H'_diag", "U'†", "H'_diag", "H'_offdiag", "V", "W", "Yadj",
    "U'", "X", "B"]

theorem main_table : main.tableOK mainNames mainZ = true := by decide +kernel

variable {p} in
theorem Ready.runs (R : p.Ready) : p.Runs main mainNames mainZ := ⟨R.wf, R.hN, R.tot, main_table⟩

theorem star_intCast_inv (k : ℤ) : star (((k : ℤ) : K)⁻¹) = ((k : ℤ) : K)⁻¹ := by
  rw [star_inv₀, star_intCast]

variable (R : p.Ready) (hopt : p.twoBlockOptimized = false)
include R

theorem F1_W : p.sr "W" ∈ FDeg (Fin p.nparams) (Mt K p.d) 1 := R.runs.noConst "W" (by simp [mainZ])
theorem F1_V : p.sr "V" ∈ FDeg (Fin p.nparams) (Mt K p.d) 1 := R.runs.noConst "V" (by simp [mainZ])
theorem F1_Y : p.sr "Yadj" ∈ FDeg (Fin p.nparams) (Mt K p.d) 1 := R.runs.noConst "Yadj" (by simp [mainZ])
theorem F1_Hd : p.sr "H'_diag" ∈ FDeg (Fin p.nparams) (Mt K p.d) 1 := R.runs.noConst "H'_diag" (by simp [mainZ])
theorem F1_Ho : p.sr "H'_offdiag" ∈ FDeg (Fin p.nparams) (Mt K p.d) 1 :=
  R.runs.noConst "H'_offdiag" (by simp [mainZ])
theorem F1_P : p.sr "U'" ∈ FDeg (Fin p.nparams) (Mt K p.d) 1 := R.runs.noConst "U'" (by simp [mainZ])

theorem sr_prod {x a b : String} (hf : findSeries main x = none ∧ findProduct main x = some (a, b)) :
    p.sr a * p.sr b = p.sr x := Ser_prod R.runs hf

theorem sr_P : p.sr "U'" = p.sr "W" + p.sr "V" := by
  ext m a b
  rw [coeff_Ser R.runs find_P]
  simp only [startE, bodyE, exprE, zero_add]; rfl

theorem sr_Q : p.sr "U'†" = p.sr "W" - p.sr "V" := by
  ext m a b
  rw [coeff_Ser R.runs find_Q]
  simp only [startE, bodyE, exprE, zero_add]; rfl

theorem sr_X : p.sr "X" = p.sr "B" + p.sr "H'_offdiag" + p.sr "H'_offdiag" * p.sr "U'" := by
  rw [p.sr_prod R prod_A]
  ext m a b
  rw [coeff_Ser R.runs find_X]
  simp only [startE, bodyE, exprE, zero_add]; rfl

theorem sr_U : p.sr "U" = 1 + p.sr "U'" := Ser_one_add R.runs find_U

theorem sr_Ud : p.sr "U†" = 1 + p.sr "U'†" := Ser_one_add R.runs find_Ud

theorem c_B (m : Fin p.nparams →₀ ℕ) (a b : Fin p.d) :
    coeff m (p.sr "B") a b =
      if p.keptE a.val b.val then
        ((-2 : ℤ) : K)⁻¹ * (coeff m (p.sr "U'† @ B") a b - star (coeff m (p.sr "U'† @ B") b a)
            + coeff m (p.sr "H'_offdiag @ U'") a b + star (coeff m (p.sr "H'_offdiag @ U'") b a))
          + (if p.commuting (p.blk a.val) then 0
             else coeff m (p.sr "V @ H'_diag") a b + star (coeff m (p.sr "V @ H'_diag") b a))
      else -(coeff m (p.sr "U'† @ B") a b) := by
  rw [coeff_Ser R.runs find_B]
  simp only [startE, bodyE, exprE, evalFlag, flag_comm, zero_add]
  cases p.keptE a.val b.val <;> simp only [Bool.false_eq_true, ↓reduceIte, zero_add, add_zero]

theorem c_W (m : Fin p.nparams →₀ ℕ) (a b : Fin p.d) :
    coeff m (p.sr "W") a b =
      if p.blk a.val > p.blk b.val then star (coeff m (p.sr "W") b a)
      else if p.keptE a.val b.val || !p.twoBlockOptimized then
        ((-2 : ℤ) : K)⁻¹ * coeff m (p.sr "U'† @ U'") a b else 0 := by
  rw [coeff_Ser R.runs find_W]
  simp only [startE, bodyE, exprE, evalFlag, flag_opt, zero_add]
  cases p.keptE a.val b.val <;> cases p.twoBlockOptimized <;>
    simp only [Bool.false_eq_true, ↓reduceIte, zero_add, add_zero, Bool.or_false, Bool.or_true, Bool.not_false,
      Bool.not_true]

theorem c_Y (m : Fin p.nparams →₀ ℕ) (a b : Fin p.d) :
    coeff m (p.sr "Yadj") a b =
      if p.blk a.val > p.blk b.val then star (coeff m (p.sr "Yadj") b a)
      else if p.keptE a.val b.val then
        if p.commuting (p.blk a.val) then 0
        else ((2 : ℤ) : K)⁻¹ * (star (coeff m (p.sr "X") b a) + coeff m (p.sr "X") a b)
      else if p.twoBlockOptimized then star (coeff m (p.sr "X") b a)
      else ((2 : ℤ) : K)⁻¹ * (star (coeff m (p.sr "X") b a) + coeff m (p.sr "X") a b) := by
  rw [coeff_Ser R.runs find_Y]
  simp only [startE, bodyE, exprE, evalFlag, flag_opt, flag_comm, zero_add]
  cases p.keptE a.val b.val <;> simp only [Bool.false_eq_true, ↓reduceIte, zero_add, add_zero]

theorem c_V (m : Fin p.nparams →₀ ℕ) (a b : Fin p.d) :
    coeff m (p.sr "V") a b =
      if p.blk a.val > p.blk b.val then -star (coeff m (p.sr "V") b a)
      else if p.keptE a.val b.val then 0
      else -p.callE "solve_sylvester" a b (star (coeff m (p.sr "Yadj") b a) - coeff m (p.sr "V @ H'_diag") a b
            - star (coeff m (p.sr "V @ H'_diag") b a)) := by
  rw [coeff_Ser R.runs find_V]
  simp only [startE, bodyE, exprE, zero_add, ↓reduceIte]

theorem c_Ht (m : Fin p.nparams →₀ ℕ) (a b : Fin p.d) :
    coeff m (p.sr "H_tilde") a b = coeff m (C (coeff 0 (p.sr "H"))) a b +
      if p.keptE a.val b.val then
        coeff m (p.sr "H'_diag") a b
          + ((2 : ℤ) : K)⁻¹ * (coeff m (p.sr "H'_offdiag @ U'") a b + star (coeff m (p.sr "H'_offdiag @ U'") b a))
          + ((-2 : ℤ) : K)⁻¹ * (coeff m (p.sr "U'† @ B") a b + star (coeff m (p.sr "U'† @ B") b a))
          - coeff m (p.sr "Yadj") a b
      else 0 := by
  rw [coeff_Ser R.runs find_Ht]
  simp only [startE, bodyE, exprE, zero_add]

variable (Y : p.Sym) (h2 : (2 : K) ≠ 0)

include Y in
theorem Y_herm (m : Fin p.nparams →₀ ℕ) (a b : Fin p.d) :
    star (coeff m (p.sr "Yadj") b a) = coeff m (p.sr "Yadj") a b := by
  rcases Nat.lt_trichotomy (p.blk a.val) (p.blk b.val) with h | h | h
  · rw [p.c_Y R m b a, if_pos h, star_star]
  · have e1 := p.c_Y R m a b
    have e2 := p.c_Y R m b a
    rw [if_neg (by omega)] at e1 e2
    rw [e1, e2, p.keptE_symm Y b a, ← h]
    cases hk : p.keptE a.val b.val
    · -- not kept inside one block: something is selected, so the flags are not optimised
      have ho : p.twoBlockOptimized = false := by
        cases ho : p.twoBlockOptimized
        · rfl
        · rw [p.keptE_opt ho, h, beq_self_eq_true] at hk; cases hk
      simp only [ho, Bool.false_eq_true, ↓reduceIte]
      rw [star_mul', star_add, star_star, star_intCast_inv, add_comm]
    · simp only [↓reduceIte]
      split
      · exact star_zero _
      · rw [star_mul', star_add, star_star, star_intCast_inv, add_comm]
  · rw [p.c_Y R m a b, if_pos h]

include Y in
theorem V_antiherm (m : Fin p.nparams →₀ ℕ) (a b : Fin p.d) :
    star (coeff m (p.sr "V") b a) = -coeff m (p.sr "V") a b := by
  rcases Nat.lt_trichotomy (p.blk a.val) (p.blk b.val) with h | h | h
  · rw [p.c_V R m b a, if_pos h, star_neg, star_star]
  · have e1 := p.c_V R m a b
    have e2 := p.c_V R m b a
    rw [if_neg (by omega)] at e1 e2
    rw [e1, e2, p.keptE_symm Y b a]
    split
    · rw [star_zero, neg_zero]
    · rw [star_neg, p.star_callE Y, star_sub, star_sub, star_star, star_star, p.Y_herm R Y m a b, sub_right_comm]
  · rw [p.c_V R m a b, if_pos h, neg_neg]

include Y in
theorem sr_V_star : star (p.sr "V") = -p.sr "V" := by
  ext m a b
  rw [coeff_star_apply, coeff_neg_apply]; exact p.V_antiherm R Y m a b

include Y in
/-- `U† = star U` once `W` is Hermitian, whichever way that is shown -/
theorem sr_U_star (hW : star (p.sr "W") = p.sr "W") : star (p.sr "U") = p.sr "U†" := by
  rw [p.sr_U R, p.sr_Ud R, p.sr_P R, p.sr_Q R, star_add, star_one, star_add, hW, p.sr_V_star R Y, sub_eq_add_neg]

include hopt h2 in
theorem W_upper_eq (f : Fin p.d → Fin p.d → Bool) (hf : ∀ a b, f a b = true → ¬ p.blk a.val > p.blk b.val) :
    2 * coeffwise (maskMap f) (p.sr "W")
      = -coeffwise (maskMap f) ((p.sr "W" - p.sr "V") * (p.sr "W" + p.sr "V")) := by
  rw [← p.sr_Q R, ← p.sr_P R, p.sr_prod R prod_QP]
  ext m a b
  rw [coeff_two_mul_apply, coeff_neg_apply, coeff_coeffwise, coeff_coeffwise, maskMap_apply,
    maskMap_apply]
  by_cases hfab : f a b = true
  · rw [if_pos hfab, if_pos hfab, p.c_W R, if_neg (hf a b hfab), hopt, Bool.not_false, Bool.or_true, if_pos rfl,
      neg_two_inv_mul h2]
  · simp [hfab]

noncomputable def fillHyp : CoreFill.Hyp (Sr (Fin p.nparams) K p.d) where
  Φ := p.filt
  two_mem := two_mem_series h2
  star_mem := p.star_mem_F
  Dg := p.DgS
  Up := p.UpS
  Lo := p.LoS
  split := p.split_blocks
  Dg_mem := coeffwise_mem _
  star_Dg := p.DgS_star
  star_Up := p.UpS_star
  star_Lo := p.LoS_star
  W := p.sr "W"
  V := p.sr "V"
  Wmem := p.F1_W R
  Vmem := p.F1_V R
  Vstar := p.sr_V_star R Y
  -- `(e :)`: `e` is elaborated on its own and then compared with the field once, which is cheaper for long statements
  eqDg := (p.W_upper_eq R hopt h2 p.dgP (by intro a b h; simp [dgP] at h; omega) :)
  eqUp := (p.W_upper_eq R hopt h2 p.upP (by intro a b h; simp [upP] at h; omega) :)
  fill := by
    ext m a b
    rw [coeff_LoS, coeff_star_apply, coeff_UpS]
    by_cases h : p.blk a.val > p.blk b.val
    · rw [if_pos h, if_pos h, p.c_W R, if_pos h]
    · rw [if_neg h, if_neg h, star_zero]

include hopt Y h2 in
theorem sr_W_star : star (p.sr "W") = p.sr "W" := CoreFill.W_hermitian (p.fillHyp R hopt Y h2)

include hopt Y h2 in
theorem sr_eqW : 2 * p.sr "W" = -((p.sr "W" - p.sr "V") * (p.sr "W" + p.sr "V")) :=
  CoreFill.eqW (p.fillHyp R hopt Y h2)

include hopt Y h2 in
/-- **C02 (model), first half**: `U† · U = 1` as formal power series, at every order. -/
theorem C02_unitary : p.sr "U†" * p.sr "U" = 1 := by
  rw [p.sr_U R, p.sr_Ud R, p.sr_P R, p.sr_Q R]
  exact (one_add_mul_one_add (p.sr_eqW R hopt Y h2) :)

include hopt Y h2 in
/-- the third returned series is the adjoint of the second -/
theorem C02_adjoint : star (p.sr "U") = p.sr "U†" := p.sr_U_star R Y (p.sr_W_star R hopt Y h2)

end Problem
end BlockDiag
end Pyma
#print axioms Pyma.BlockDiag.Problem.sr_eqW
#print axioms Pyma.BlockDiag.Problem.C02_unitary
#print axioms Pyma.BlockDiag.Problem.C02_adjoint
