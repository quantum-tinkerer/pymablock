/-
Naturality at ring level (Theorem D, matrix form): if two environments for the same certified program
are intertwined by an additive, multiplicative, adjoint-preserving map `Φ` on block matrices (inputs,
scope functions and masks commute with `Φ`), then the denotation of every element in the second is the
`Φ`-image of its denotation in the first.  "Same algorithm, different carrier" statements (implicit
mode, change of eigenbasis) are instances of this form: their obligations are identities between matrices.
-/
import PymaVerif.Proofs.Total
import PymaVerif.Proofs.StepSem
import PymaVerif.Proofs.Global

namespace Pyma
namespace Dsl

variable {K : Type} [Field K] [StarRing K] [DecidableEq K] [Thresholds K]
attribute [local instance] Scalar.ofField
variable {B B' : Blocks} {p : Prog} {env env' : Env K}

theorem exprSem_supp (he : EnvOK B env) (S : EnvSem B env)
    (hfn : ∀ f X idx, SuppM B idx.i idx.j X → SuppM B idx.i idx.j (S.fnVal f X idx))
    (c : Cert) (z : Bool) (r : Nat) (idx : Idx) :
    ∀ e, c.exprOK z r e = true → SuppM B idx.i idx.j (exprSem S p idx e) := by
  intro e
  induction e with
  | ser y => intro _; exact mat_suppM he y idx
  | adj y => intro _; exact (mat_suppM he y idx.swap).conjTranspose
  | neg e ih => intro h; exact (ih h).neg
  | add a b iha ihb =>
    intro h
    simp only [Cert.exprOK, Bool.and_eq_true] at h
    exact (iha h.1).add (ihb h.2)
  | sub a b iha ihb =>
    intro h
    simp only [Cert.exprOK, Bool.and_eq_true] at h
    exact (iha h.1).sub (ihb h.2)
  | divInt e k ih => intro h; exact (ih h).smul _
  | callSer f x => intro h; simp [Cert.exprOK] at h
  | callExpr f e ih =>
    intro h
    simp only [Cert.exprOK, Bool.and_eq_true] at h
    exact hfn f _ idx (ih h.2)
  | zero => intro _; exact SuppM.zero
  | ite fl t e iht ihe =>
    intro h
    simp only [Cert.exprOK, Bool.and_eq_true] at h
    simp only [exprSem]
    split
    · exact iht h.1
    · exact ihe h.2

/-- Scope functions and masks need to commute with `Φ` only on matrices supported on the block in
question — all the algorithm ever applies them to. -/
structure Inter (Φ : MatK K B →+ MatK K B') (env env' : Env K) (S : EnvSem B env) (S' : EnvSem B' env') :
    Prop where
  mul : ∀ X Y, Φ (X * Y) = Φ X * Φ Y
  adj : ∀ X, Φ X.conjTranspose = (Φ X).conjTranspose
  /-- only division by integers occurs in the mini-language, so semilinear maps qualify too -/
  smul : ∀ (k : Int) X, Φ (((k : K)⁻¹) • X) = ((k : K)⁻¹) • Φ X
  inputs : env'.inputs = env.inputs
  nblocks : env'.nblocks = env.nblocks
  input : ∀ h idx, sem B' idx (env'.input h idx) = Φ (sem B idx (env.input h idx))
  fn_supp : ∀ f X idx, SuppM B idx.i idx.j X → SuppM B idx.i idx.j (S.fnVal f X idx)
  fnVal : ∀ f X idx, SuppM B idx.i idx.j X → S'.fnVal f (Φ X) idx = Φ (S.fnVal f X idx)
  diag : ∀ X idx, SuppM B idx.i idx.j X → S'.diag (Φ X) idx = Φ (S.diag X idx)
  offdiag : ∀ X idx, SuppM B idx.i idx.j X → S'.offdiag (Φ X) idx = Φ (S.offdiag X idx)
  offdiag_some : env'.offdiag.isSome = env.offdiag.isSome
  flagName : env'.flagName = env.flagName
  flagIdx : env'.flagIdx = env.flagIdx

section
variable {Φ : MatK K B →+ MatK K B'} {S : EnvSem B env} {S' : EnvSem B' env'} (hΦ : Inter Φ env env' S S')
  {c : Cert}

def Nat' (p : Prog) (env env' : Env K) (Φ : MatK K B →+ MatK K B') (x : String) (idx : Idx) : Prop :=
  mat B' p env' x idx = Φ (mat B p env x idx)
include hΦ

theorem evalFlag_inter (idx : Idx) (fl : Flag) : evalFlag env' idx fl = evalFlag env idx fl := by
  cases fl <;> simp [evalFlag, hΦ.flagName, hΦ.flagIdx]

theorem expr_nat (he : EnvOK B env) {z : Bool} {r : Nat} {idx : Idx}
    (hrefs : ∀ y, c.refOK z r y = true → ∀ idx' : Idx, idx'.n = idx.n → Nat' p env env' Φ y idx') :
    ∀ e, c.exprOK z r e = true → exprSem S' p idx e = Φ (exprSem S p idx e) := by
  intro e
  induction e with
  | ser y => intro h; exact hrefs y h idx rfl
  | adj y =>
    intro h
    simp only [exprSem]
    rw [hrefs y h idx.swap rfl, hΦ.adj]
  | neg e ih => intro h; simp only [exprSem, ih h, Φ.map_neg]
  | add a b iha ihb =>
    intro h
    simp only [Cert.exprOK, Bool.and_eq_true] at h
    simp only [exprSem, iha h.1, ihb h.2, Φ.map_add]
  | sub a b iha ihb =>
    intro h
    simp only [Cert.exprOK, Bool.and_eq_true] at h
    simp only [exprSem, iha h.1, ihb h.2, Φ.map_sub]
  | divInt e k ih => intro h; simp only [exprSem, ih h, hΦ.smul]
  | callSer f x => intro h; simp [Cert.exprOK] at h
  | callExpr f e ih =>
    intro h
    simp only [Cert.exprOK, Bool.and_eq_true] at h
    simp only [exprSem, ih h.2]
    exact hΦ.fnVal f _ idx (exprSem_supp he S hΦ.fn_supp c z r idx e h.2)
  | zero => exact fun _ => Φ.map_zero.symm
  | ite fl t e iht ihe =>
    intro h
    simp only [Cert.exprOK, Bool.and_eq_true] at h
    simp only [exprSem, evalFlag_inter hΦ, iht h.1, ihe h.2]
    exact (apply_ite Φ _ _ _).symm

theorem body_nat {self : String} {idx : Idx}
    (hself : idx.i > idx.j → Nat' p env env' Φ self idx.swap) :
    ∀ (body : List Stmt),
      (∀ cd e, Stmt.clause cd e ∈ body → exprSem S' p idx e = Φ (exprSem S p idx e) ∧
        SuppM B idx.i idx.j (exprSem S p idx e)) →
      ∀ acc, bodySem S' p self idx body (Φ acc) = Φ (bodySem S p self idx body acc) := by
  intro body
  induction body with
  | nil => intro _ acc; rfl
  | cons st rest ih =>
    intro hE acc
    have hrest := fun cd e hm => hE cd e (List.mem_cons_of_mem _ hm)
    cases st with
    | marker anti =>
      simp only [bodySem]
      by_cases hlow : idx.i > idx.j
      · simp only [hlow, ↓reduceIte]
        rw [hself hlow]
        cases anti
        · simp only [Bool.false_eq_true, ↓reduceIte, Φ.map_add, hΦ.adj]
        · simp only [↓reduceIte, Φ.map_add, Φ.map_neg, hΦ.adj]
      · simp only [hlow, ↓reduceIte]; exact ih hrest acc
    | clause cd e =>
      have he := hE cd e (List.mem_cons_self)
      cases cd with
      | default => simp only [bodySem, he.1, ← Φ.map_add]; exact ih hrest _
      | diagonal =>
        simp only [bodySem]
        by_cases hd : (idx.i == idx.j) = true
        · simp only [hd, ↓reduceIte, he.1]
          rw [hΦ.diag _ idx he.2, ← Φ.map_add]; exact ih hrest _
        · simp only [hd, Bool.false_eq_true, ↓reduceIte]; exact ih hrest _
      | offdiagonal =>
        simp only [bodySem]
        by_cases hd : (idx.i != idx.j) = true
        · simp only [hd, ↓reduceIte, he.1, ← Φ.map_add]; exact ih hrest _
        · simp only [hd, Bool.false_eq_true, ↓reduceIte]
          have hs := hΦ.offdiag_some
          cases ho : env.offdiag with
          | none =>
            cases ho' : env'.offdiag with
            | none => exact ih hrest _
            | some od' => rw [ho, ho'] at hs; cases hs
          | some od =>
            cases ho' : env'.offdiag with
            | none => rw [ho, ho'] at hs; cases hs
            | some od' =>
              simp only [he.1]
              rw [hΦ.offdiag _ idx he.2, ← Φ.map_add]
              exact ih hrest _
      | lower =>
        simp only [bodySem]
        by_cases hlow : idx.i > idx.j
        · simp only [hlow, ↓reduceIte, he.1, Φ.map_add]
        · simp only [hlow, ↓reduceIte]; exact ih hrest _

end

section
variable {c : Cert} (hc : c.ok p = true) (het : EnvTot c env) {x : String} (hx : x ∈ c.names)
include hc het hx

theorem mat_eq_elemSem (he : EnvOK B env) (S : EnvSem B env) (idx : Idx) : mat B p env x idx = elemSem S p x idx := by
  obtain ⟨v, hv, _⟩ := total hc het (deg idx.n) x hx idx rfl
  exact Den.sat he S hv

theorem mat_eq_zero_of_z0 {idx : Idx} (hz : c.z0 x = true) (h0 : deg idx.n = 0) : mat B p env x idx = 0 := by
  obtain ⟨v, hv, _, hv0⟩ := total hc het (deg idx.n) x hx idx rfl
  rw [mat, den_eq hv, hv0 hz (isOrderZero_iff.mpr h0)]; rfl

end

section main
variable (Φ : MatK K B →+ MatK K B') (S : EnvSem B env) (S' : EnvSem B' env') (hΦ : Inter Φ env env' S S')
  (c : Cert) (hc : c.ok p = true) (he : EnvOK B env) (he' : EnvOK B' env')
  (het : EnvTot c env) (het' : EnvTot c env')
  /- the block identities need to correspond only if a certified series starts with `one` -/
  (hone : (∃ x ∈ c.names, ∃ d, kindI p c.inputs x = .series d ∧ d.start = .one) → ∀ i, Φ (blockId B i) = blockId B' i)

include hΦ hc he he' het het' hone in
/-- **Theorem D, ring level** -/
theorem sem_natural : ∀ t, ∀ x ∈ c.names, ∀ idx : Idx, deg idx.n = t → Nat' p env env' Φ x idx := by
  intro t x hx idx _
  have hkind : ∀ x, kindOf p env' x = kindOf p env x := fun x => by unfold kindOf; rw [hΦ.inputs]
  have hkI : ∀ x, kindOf p env x = kindI p c.inputs x := kindOf_eq_kindI het.inputs
  have unfold_both : ∀ {x idx}, x ∈ c.names → elemSem S' p x idx = Φ (elemSem S p x idx) →
      Nat' p env env' Φ x idx := fun hx h => by
    unfold Nat'
    rw [mat_eq_elemSem hc het hx he S, mat_eq_elemSem hc het' hx he' S']; exact h
  refine Cert.induct (P := Nat' p env env' Φ) hc ?input ?series ?product x hx idx
  case input =>
    intro x hx hk _ _ idx
    apply unfold_both hx
    simp only [elemSem, hkind, hkI, hk]
    exact hΦ.input x idx
  case series =>
    intro d hx hk hs idx hrefs hsw
    apply unfold_both hx
    simp only [elemSem, hkind, hkI, hk]
    have hstart : (startVal env' d.start idx).map (sem B' idx)
        = (startVal env d.start idx).map (fun v => Φ (sem B idx v)) := by
      unfold startVal
      by_cases hz : idx.isOrderZero = true
      · rw [if_pos hz, if_pos hz]
        cases hst : d.start with
        | none => rfl
        | zero => exact congrArg some Φ.map_zero.symm
        | one =>
          by_cases hij : (idx.i == idx.j) = true
          · simp only [hij, ↓reduceIte, Option.map_some, sem, hone ⟨d.name, hx, d, hk, hst⟩]
          · simp only [hij, Bool.false_eq_true, ↓reduceIte, Option.map_none]
        | input h => exact congrArg some (hΦ.input h idx)
      · rw [if_neg hz, if_neg hz]; rfl
    cases hs0 : startVal env d.start idx with
    | some v =>
      rw [hs0] at hstart
      obtain ⟨v', hs', hv'⟩ := Option.map_eq_some_iff.mp hstart
      rw [hs']
      exact hv'
    | none =>
      rw [hs0] at hstart
      rw [Option.map_eq_none_iff.mp hstart]
      have hstm := c.body_ok hs idx fun h0 => startVal_none_pinned hs0 (isOrderZero_iff.mpr h0)
      have hE : ∀ cd e, Stmt.clause cd e ∈ d.body → exprSem S' p idx e = Φ (exprSem S p idx e) ∧
          SuppM B idx.i idx.j (exprSem S p idx e) := fun cd e hm =>
        have := List.all_eq_true.mp hstm _ hm
        ⟨expr_nat hΦ he hrefs e this, exprSem_supp he S hΦ.fn_supp c _ _ idx e this⟩
      have := body_nat hΦ hsw d.body hE 0
      rw [Φ.map_zero] at this
      exact this
  case product =>
    intro x a b hx hk hok idx lower _
    apply unfold_both hx
    obtain ⟨ha, hb, _, _, hza, hzb, _, _⟩ := c.productOK_iff.mp hok
    simp only [elemSem, hkind, hkI, hk, pairSum, hΦ.nblocks]
    rw [map_list_sum, List.map_map]
    congr 1
    apply List.map_congr_left
    intro tr htr
    simp only [Function.comp]
    have hsum := splits_deg (mem_pairsOf htr)
    rw [hΦ.mul]
    by_cases h1 : deg tr.2.1 = 0
    · -- the left factor vanishes at order zero in both environments
      rw [mat_eq_zero_of_z0 hc het ha hza h1, mat_eq_zero_of_z0 hc het' ha hza h1, Φ.map_zero, zero_mul, zero_mul]
    · by_cases h2 : deg tr.2.2 = 0
      · rw [mat_eq_zero_of_z0 hc het hb hzb h2, mat_eq_zero_of_z0 hc het' hb hzb h2, Φ.map_zero, mul_zero, mul_zero]
      · have ia : Nat' p env env' Φ a ⟨idx.i, tr.1, tr.2.1⟩ := lower a ha _ (by simp only; omega)
        have ib : Nat' p env env' Φ b ⟨tr.1, idx.j, tr.2.2⟩ := lower b hb _ (by simp only; omega)
        unfold Nat' at ia ib
        rw [ia, ib]

end main

end Dsl
end Pyma

#print axioms Pyma.Dsl.sem_natural
