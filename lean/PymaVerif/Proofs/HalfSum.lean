/-
C18, algebraic core of the Hermitian shortcut: summing only over the pairs `(a,b)` with `¬ a > b`
(any strict total order, e.g. Python's tuple comparison) and adding the adjoint of the terms with
`a ≠ b` gives the full sum, provided swapping a pair conjugates its term.
-/
import Mathlib.Algebra.BigOperators.Group.Finset.Basic

open Finset

variable {ι A : Type*} [DecidableEq ι] [AddCommGroup A]

theorem half_sum_eq_full (s : Finset (ι × ι)) (hswap : ∀ p ∈ s, p.swap ∈ s)
    (gt : ι → ι → Prop) [DecidableRel gt]
    (hirr : ∀ a, ¬ gt a a) (hasym : ∀ a b, gt a b → ¬ gt b a) (htot : ∀ a b, a ≠ b → gt a b ∨ gt b a)
    (T : ι × ι → A) (adj : A → A) (hT : ∀ p ∈ s, T p.swap = adj (T p)) :
    ∑ p ∈ s, T p = ∑ p ∈ s.filter (fun p => ¬ gt p.1 p.2), (T p + if p.1 ≠ p.2 then adj (T p) else 0) := by
  rw [← Finset.sum_filter_add_sum_filter_not s (fun p => gt p.1 p.2)]
  -- the `gt` part is the image of the strict `lt` part under swap
  have hgt : ∑ p ∈ s.filter (fun p => gt p.1 p.2), T p
      = ∑ p ∈ (s.filter (fun p => ¬ gt p.1 p.2)).filter (fun p => p.1 ≠ p.2), adj (T p) := by
    apply Finset.sum_nbij' Prod.swap Prod.swap
    · intro p hp
      rw [mem_filter] at hp
      rw [mem_filter, mem_filter]
      exact ⟨⟨hswap p hp.1, hasym _ _ hp.2⟩, fun h : p.2 = p.1 => hirr p.1 (h ▸ hp.2)⟩
    · intro p hp
      rw [mem_filter, mem_filter] at hp
      rw [mem_filter]
      exact ⟨hswap p hp.1.1, (htot p.1 p.2 hp.2).resolve_left hp.1.2⟩
    · intro p _; exact Prod.swap_swap p
    · intro p _; exact Prod.swap_swap p
    · intro p hp
      rw [mem_filter] at hp
      rw [← hT p.swap (hswap p hp.1), Prod.swap_swap]
  rw [hgt, Finset.sum_add_distrib, Finset.sum_filter, add_comm]

#print axioms half_sum_eq_full
