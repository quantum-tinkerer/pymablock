/-
What a series of a translated program is at one matrix entry, in the scope that `block_diagonalize`
wires up (`Problem.env`): for every program, `coeff m (ser x) a b` is the start value of `x` where it has one
and else the entry-level reading `bodyE` of its body (`ser_entry`).  At an entry the `diag`/`offdiag` wrappers, the block tests of the clauses and the
`fully_diagonalize` cases all collapse into the one predicate `keptE`.  `Prog.tableOK` is the one check on
the table of a program that `ProblemSeries` asks for.
-/
import PymaVerif.Proofs.Global
import PymaVerif.Proofs.BlockDiagSem
import PymaVerif.Proofs.SeriesMask

namespace Pyma
namespace Dsl

section
variable {K : Type}

theorem kindOf_series {p : Prog} {env : Env K} {x : String} {d : SeriesDef}
    (hin : env.inputs.contains x = false) (hf : findSeries p x = some d) :
    kindOf p env x = .series d := by
  unfold kindOf; rw [hin]; simp [hf]

theorem kindOf_product {p : Prog} {env : Env K} {x a b : String}
    (hin : env.inputs.contains x = false) (hf : findSeries p x = none)
    (hp : findProduct p x = some (a, b)) : kindOf p env x = .product a b := by
  unfold kindOf; rw [hin]; simp [hf, hp]

theorem findSeries_mem {p : Prog} {x : String} {d : SeriesDef} (h : findSeries p x = some d) :
    d ∈ p.series ∧ d.name = x :=
  ⟨List.mem_of_find?_eq_some h, by simpa using List.find?_some h⟩

theorem startVal_of_pos {env : Env K} {st : Start} {idx : Idx} (h : idx.isOrderZero = false) :
    startVal env st idx = none := by
  simp [startVal, h]

end

def Expr.refs : Expr → List String
  | .ser x | .adj x => [x]
  | .neg e | .divInt e _ | .callExpr _ e => e.refs
  | .add a b | .sub a b | .ite _ a b => a.refs ++ b.refs
  | .callSer _ _ | .zero => []

def bodyRefs (self : String) : List Stmt → List String
  | [] => []
  | .marker _ :: rest => self :: bodyRefs self rest
  | .clause _ e :: rest => e.refs ++ bodyRefs self rest

def Prog.productNames (P : Prog) : List String :=
  P.products.flatMap fun pd => (List.range (pd.terms.length + 1)).filterMap fun l =>
    if l ≥ 2 then some (joinName (pd.terms.take l)) else none

theorem findProduct_mem {P : Prog} {x : String} {ab : String × String} (h : findProduct P x = some ab) :
    x ∈ P.productNames := by
  obtain ⟨pd, hpd, h⟩ := List.exists_of_findSome?_eq_some h
  obtain ⟨l, hl, h⟩ := List.exists_of_findSome?_eq_some h
  split at h
  · rename_i hc
    simp only [Bool.and_eq_true, decide_eq_true_eq, beq_iff_eq] at hc
    exact List.mem_flatMap.mpr ⟨pd, hpd, List.mem_filterMap.mpr ⟨l, hl, by rw [if_pos hc.1, hc.2]⟩⟩
  · cases h

/-- `x` has no constant term by its declaration once the names of `Z` have none -/
def Prog.noConstBy (P : Prog) (Z : List String) (x : String) : Bool :=
  match findSeries P x, findProduct P x with
  | some d, _ => d.start == .zero || (d.start == .none && (bodyRefs x d.body).all Z.contains)
  | none, some (a, _) => Z.contains a
  | none, none => false

def Prog.noConst (P : Prog) : List String → Bool
  | [] => true
  | x :: Z => P.noConstBy Z x && P.noConst Z

/-- `"H"` is the only input in the scope of `block_diagonalize` -/
def Prog.tableOK (P : Prog) (N Z : List String) : Bool :=
  P.series.all (fun d => (N.contains d.name && d.name != "H") &&
    (bodyRefs d.name d.body).all fun y => y == "H" || Z.contains y) &&
  P.productNames.all (fun x => N.contains x && x != "H") && P.noConst Z

theorem Prog.tableOK_iff {P : Prog} {N Z : List String} : P.tableOK N Z = true ↔
    (∀ d ∈ P.series, (d.name ∈ N ∧ d.name ≠ "H") ∧ ∀ y ∈ bodyRefs d.name d.body, y = "H" ∨ y ∈ Z) ∧
    (∀ x ∈ P.productNames, x ∈ N ∧ x ≠ "H") ∧ P.noConst Z = true := by
  simp only [Prog.tableOK, Bool.and_eq_true, List.all_eq_true, List.contains_iff_mem, bne_iff_ne, ne_eq,
    Bool.or_eq_true, beq_iff_eq, and_assoc]

end Dsl

namespace BlockDiag
open Dsl MvPowerSeries
namespace Problem

section flags
variable {K : Type} (p : Problem K)

theorem selected_false_of_empty (h : fdIsEmpty p.fdEff = true) (i : Nat) : p.selected i = false := by
  unfold selected
  cases hfd : p.fdEff with
  | none => rfl
  | tuple l => simp [fdIsEmpty, hfd] at h; simp [h]
  | dict l => simp [fdIsEmpty, hfd] at h; simp [h]

theorem empty_of_opt (hopt : p.twoBlockOptimized = true) : fdIsEmpty p.fdEff = true := by
  simp only [twoBlockOptimized, Bool.and_eq_true] at hopt; exact hopt.2

theorem nblocks_of_opt (hopt : p.twoBlockOptimized = true) : p.nblocks = 2 := by
  simp only [twoBlockOptimized, Bool.and_eq_true, beq_iff_eq] at hopt; exact hopt.1

end flags

variable {K : Type} [Field K] [StarRing K] [DecidableEq K] [Thresholds K]
attribute [local instance] Scalar.ofField
variable (p : Problem K) (hwf : p.WF)

theorem inputs_contains (x : String) (hx : x ≠ "H") : p.env.inputs.contains x = false := by
  simp [env, hx]

theorem den_H (P : Prog) {idx : Idx} : Den P p.env "H" idx (p.env.input "H" idx) :=
  Holds.input (by simp [kindOf, env])

def elimIn (a b : Nat) : Bool := p.selected (p.blk a) && p.elim a b

def keptE (a b : Nat) : Bool := p.blk a == p.blk b && !p.elimIn a b

theorem elimIn_false_of_empty (h : fdIsEmpty p.fdEff = true) (a b : Nat) : p.elimIn a b = false := by
  simp [elimIn, p.selected_false_of_empty h]

theorem env_offdiag : p.env.offdiag = if fdIsEmpty p.fdEff then none else some p.offdiagW := rfl

theorem kept_same_block {a b : Nat} (h : p.keptE a b = true) : p.blk a = p.blk b := by
  simp only [keptE, Bool.and_eq_true, beq_iff_eq] at h
  exact h.1

theorem keptE_opt (hopt : p.twoBlockOptimized = true) (a b : Nat) : p.keptE a b = (p.blk a == p.blk b) := by
  simp [keptE, p.elimIn_false_of_empty (p.empty_of_opt hopt)]

theorem flag_comm (i : Nat) : p.env.flagIdx "commuting_blocks" i = p.commuting i := by
  simp [env]

theorem flag_opt : p.env.flagName "two_block_optimized" = p.twoBlockOptimized := by
  simp [env]

theorem envSem_diag_apply (M : MatK K p.blocks) (n : List Nat) (j : Nat) (a b : Fin p.d) :
    (p.envSem hwf).diag M ⟨p.blk a.val, j, n⟩ a b = if p.elimIn a.val b.val then 0 else M a b := by
  show (if p.selected (p.blk a.val) then p.hadamard (fun a b => !p.elim a b) M else M) a b = _
  rw [elimIn]
  cases p.selected (p.blk a.val) <;> cases h : p.elim a.val b.val <;> simp [hadamard, h]

theorem envSem_offdiag_apply (M : MatK K p.blocks) (n : List Nat) (j : Nat) (a b : Fin p.d) :
    (p.envSem hwf).offdiag M ⟨p.blk a.val, j, n⟩ a b = if p.elimIn a.val b.val then M a b else 0 := by
  show (if p.selected (p.blk a.val) then p.hadamard (fun a b => p.elim a b) M else 0) a b = _
  rw [elimIn]
  cases p.selected (p.blk a.val) <;> cases h : p.elim a.val b.val <;> simp [hadamard, h]

theorem diag_clause (M : MatK K p.blocks) (n : List Nat) (a b : Fin p.d) :
    (if (p.blk a.val == p.blk b.val) = true then
        (p.envSem hwf).diag M ⟨p.blk a.val, p.blk b.val, n⟩ a b else 0)
      = if p.keptE a.val b.val then M a b else 0 := by
  rw [envSem_diag_apply, keptE]
  cases p.blk a.val == p.blk b.val <;> cases p.elimIn a.val b.val <;> rfl

/-- when nothing is selected `env.offdiag` is absent, and then nothing is eliminated -/
theorem offdiag_clause (M : MatK K p.blocks) (n : List Nat) (a b : Fin p.d) :
    (if (p.blk a.val != p.blk b.val) = true then M a b
      else match p.env.offdiag with
        | some _ => (p.envSem hwf).offdiag M ⟨p.blk a.val, p.blk b.val, n⟩ a b
        | none => 0)
      = if p.keptE a.val b.val then 0 else M a b := by
  rw [p.env_offdiag, envSem_offdiag_apply, keptE, bne]
  by_cases hfd : fdIsEmpty p.fdEff = true
  · rw [if_pos hfd, p.elimIn_false_of_empty hfd]
    cases p.blk a.val == p.blk b.val <;> rfl
  · rw [if_neg hfd]
    cases p.blk a.val == p.blk b.val <;> cases p.elimIn a.val b.val <;> rfl

/-- Irreducible: unfolded, the test on the name is evaluated by whoever compares two such terms, and
evaluating string equality is slow. -/
@[irreducible] def callE (f : String) (a b : Fin p.d) (x : K) : K :=
  if f == "solve_sylvester" then
    if Scalar.absGt (p.energy a.val - p.energy b.val) p.atol then
      x * (p.energy a.val - p.energy b.val)⁻¹ else 0
  else 0

theorem callE_solve (a b : Fin p.d) (x : K) :
    p.callE "solve_sylvester" a b x =
      if Scalar.absGt (p.energy a.val - p.energy b.val) p.atol then
        x * (p.energy a.val - p.energy b.val)⁻¹ else 0 := by
  rw [callE, beq_self_eq_true, if_pos rfl]

theorem callE_gap (hne : ∀ x : K, Thresholds.absGt x p.atol = true → x ≠ 0) {a b : Fin p.d}
    (hg : Scalar.absGt (p.energy a.val - p.energy b.val) p.atol = true) (x : K) :
    (p.energy a.val - p.energy b.val) * p.callE "solve_sylvester" a b x = x := by
  rw [callE_solve, if_pos hg, mul_comm x, ← mul_assoc, mul_inv_cancel₀ (hne _ hg), one_mul]

theorem callE_zero (f : String) (a b : Fin p.d) : p.callE f a b 0 = 0 := by
  rw [callE, zero_mul, ite_self, ite_self]

variable (P : Prog)

noncomputable abbrev ser (x : String) : Sr (Fin p.nparams) K p.d := Ser p.blocks P p.env p.nparams x

noncomputable def exprE (m : Fin p.nparams →₀ ℕ) (a b : Fin p.d) : Expr → K
  | .ser x => coeff m (p.ser P x) a b
  | .adj x => star (coeff m (p.ser P x) b a)
  | .neg e => -exprE m a b e
  | .add e f => exprE m a b e + exprE m a b f
  | .sub e f => exprE m a b e - exprE m a b f
  | .divInt e k => ((k : ℤ) : K)⁻¹ * exprE m a b e
  | .callSer _ _ => 0
  | .callExpr f e => p.callE f a b (exprE m a b e)
  | .zero => 0
  | .ite fl t e =>
      if evalFlag p.env ⟨p.blk a.val, p.blk b.val, toList m⟩ fl then exprE m a b t else exprE m a b e

theorem exprSem_entry (m : Fin p.nparams →₀ ℕ) (a b : Fin p.d) (e : Expr) :
    exprSem (p.envSem hwf) P ⟨p.blk a.val, p.blk b.val, toList m⟩ e a b = p.exprE P m a b e := by
  induction e with
  | ser x => rfl
  | adj x => rfl
  | neg e ih => simp only [exprSem, exprE, Matrix.neg_apply, ih]
  | add e f ihe ihf => simp only [exprSem, exprE, Matrix.add_apply, ihe, ihf]
  | sub e f ihe ihf => simp only [exprSem, exprE, Matrix.sub_apply, ihe, ihf]
  | divInt e k ih => simp only [exprSem, exprE, Matrix.smul_apply, smul_eq_mul, ih]
  | callSer f x => rfl
  | callExpr f e ih =>
    simp only [exprSem, exprE, ← ih]
    rw [callE]
    show (if f == "solve_sylvester" then p.solveSem _ _ else 0) a b = _
    split
    · simp only [solveSem, inBlock, beq_self_eq_true, Bool.and_self, ↓reduceIte]
    · rfl
  | zero => rfl
  | ite fl t e iht ihe =>
    simp only [exprSem, exprE]
    split
    · exact iht
    · exact ihe

noncomputable def bodyE (self : String) (m : Fin p.nparams →₀ ℕ) (a b : Fin p.d) : List Stmt → K → K
  | [], acc => acc
  | .marker anti :: rest, acc =>
      if p.blk a.val > p.blk b.val then
        acc + (if anti then -star (coeff m (p.ser P self) b a) else star (coeff m (p.ser P self) b a))
      else bodyE self m a b rest acc
  | .clause .lower e :: rest, acc =>
      if p.blk a.val > p.blk b.val then acc + p.exprE P m a b e else bodyE self m a b rest acc
  | .clause .diagonal e :: rest, acc =>
      bodyE self m a b rest (acc + if p.keptE a.val b.val then p.exprE P m a b e else 0)
  | .clause .offdiagonal e :: rest, acc =>
      bodyE self m a b rest (acc + if p.keptE a.val b.val then 0 else p.exprE P m a b e)
  | .clause .default e :: rest, acc => bodyE self m a b rest (acc + p.exprE P m a b e)

/-- `Problem.env.input` ignores the name: every `input` start is the constant term of `"H"`. -/
noncomputable def startE (m : Fin p.nparams →₀ ℕ) (a b : Fin p.d) : Start → K
  | .one => coeff m (1 : Sr (Fin p.nparams) K p.d) a b
  | .input _ => coeff m (C (coeff 0 (p.ser P "H")) : Sr (Fin p.nparams) K p.d) a b
  | _ => 0

theorem bodySem_entry (self : String) (m : Fin p.nparams →₀ ℕ) (a b : Fin p.d) (body : List Stmt)
    (acc : MatK K p.blocks) :
    bodySem (p.envSem hwf) P self ⟨p.blk a.val, p.blk b.val, toList m⟩ body acc a b
      = p.bodyE P self m a b body (acc a b) := by
  induction body generalizing acc with
  | nil => rfl
  | cons s rest ih =>
    cases s with
    | marker anti =>
      simp only [bodySem, bodyE]
      by_cases hlt : p.blk a.val > p.blk b.val
      · rw [if_pos hlt, if_pos hlt]; cases anti <;> rfl
      · rw [if_neg hlt, if_neg hlt]; exact ih acc
    | clause c e =>
      cases c with
      | default => simp only [bodySem, bodyE, ih, Matrix.add_apply, p.exprSem_entry hwf P]
      | lower =>
        simp only [bodySem, bodyE]
        split
        · simp only [Matrix.add_apply, p.exprSem_entry hwf P]
        · exact ih acc
      | diagonal =>
        have h := p.diag_clause hwf (exprSem (p.envSem hwf) P ⟨p.blk a.val, p.blk b.val, toList m⟩ e) (toList m) a b
        rw [p.exprSem_entry hwf P] at h
        simp only [bodySem, bodyE, ← h]
        split
        · rw [ih, Matrix.add_apply]
        · rw [ih, add_zero]
      | offdiagonal =>
        have h := p.offdiag_clause hwf (exprSem (p.envSem hwf) P ⟨p.blk a.val, p.blk b.val, toList m⟩ e) (toList m) a b
        rw [p.exprSem_entry hwf P] at h
        simp only [bodySem, bodyE, ← h]
        split
        · rw [ih, Matrix.add_apply, p.exprSem_entry hwf P]
        · cases p.env.offdiag with
          | some od => dsimp only; rw [ih, Matrix.add_apply]
          | none => dsimp only; rw [ih, add_zero]

include hwf in
theorem ser_entry {P} {x : String} {d : SeriesDef} (hx : ∀ idx, ∃ v, Den P p.env x idx v) (hin : x ≠ "H")
    (hf : findSeries P x = some d) (m : Fin p.nparams →₀ ℕ) (a b : Fin p.d) :
    coeff m (p.ser P x) a b = match startVal p.env d.start ⟨p.blk a.val, p.blk b.val, toList m⟩ with
      | some v => sem p.blocks ⟨p.blk a.val, p.blk b.val, toList m⟩ v a b
      | none => p.bodyE P x m a b d.body 0 := by
  obtain ⟨v, hv⟩ := hx ⟨p.blk a.val, p.blk b.val, toList m⟩
  refine (congrFun (congrFun (Den.sat (p.envOK hwf) (p.envSem hwf) hv) a) b).trans ?_
  simp only [elemSem, kindOf_series (p.inputs_contains x hin) hf]
  cases startVal p.env d.start ⟨p.blk a.val, p.blk b.val, toList m⟩ with
  | some v => rfl
  | none => exact p.bodySem_entry hwf P x m a b d.body 0

theorem exprE_eq_zero (m : Fin p.nparams →₀ ℕ) (a b : Fin p.d) {e : Expr}
    (h : ∀ y ∈ e.refs, coeff m (p.ser P y) = 0) : p.exprE P m a b e = 0 := by
  induction e with
  | ser y => simp [exprE, h y (by simp [Expr.refs])]
  | adj y => simp [exprE, h y (by simp [Expr.refs])]
  | neg e ih => simp [exprE, ih h]
  | add e f ihe ihf =>
    simp only [Expr.refs, List.mem_append] at h
    simp [exprE, ihe fun y hy => h y (Or.inl hy), ihf fun y hy => h y (Or.inr hy)]
  | sub e f ihe ihf =>
    simp only [Expr.refs, List.mem_append] at h
    simp [exprE, ihe fun y hy => h y (Or.inl hy), ihf fun y hy => h y (Or.inr hy)]
  | divInt e k ih => simp [exprE, ih h]
  | callSer f y => rfl
  | callExpr f e ih => rw [exprE, ih h, callE_zero]
  | zero => rfl
  | ite fl t e iht ihe =>
    simp only [Expr.refs, List.mem_append] at h
    simp [exprE, iht fun y hy => h y (Or.inl hy), ihe fun y hy => h y (Or.inr hy)]

theorem bodyE_eq_acc (self : String) {m : Fin p.nparams →₀ ℕ} (a b : Fin p.d) {body : List Stmt}
    (h : ∀ y ∈ bodyRefs self body, coeff m (p.ser P y) = 0) (acc : K) :
    p.bodyE P self m a b body acc = acc := by
  induction body generalizing acc with
  | nil => rfl
  | cons s rest ih =>
    cases s with
    | marker anti =>
      simp only [bodyRefs, List.mem_cons, forall_eq_or_imp] at h
      simp [bodyE, h.1, ih h.2]
    | clause c e =>
      simp only [bodyRefs, List.mem_append] at h
      have he := p.exprE_eq_zero P m a b fun y hy => h y (Or.inl hy)
      have hr := ih fun y hy => h y (Or.inr hy)
      cases c <;> simp [bodyE, he, hr]

end Problem
end BlockDiag
end Pyma
