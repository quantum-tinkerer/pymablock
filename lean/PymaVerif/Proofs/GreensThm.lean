/-
C16 (direct solver): the pivot-constrained solve of `direct_greens_function` returns a solution of
`(E - H) x = P v` in the range of `P`, provided the left kernel vectors restricted to the pivot
rows are injective (what the pivot choice must guarantee; cf. defect D10) — `direct_solve`, on the algebra of the complement projector
`1 - K L` of a biorthonormal pair (`complement_proj`, also behind C17).  `rows_assemble`, `cols_assemble`: the row-wise (column-wise)
solves of `solve_sylvester_direct` together solve the Sylvester equation of the implicit block.
-/
import Mathlib.LinearAlgebra.Matrix.ConjTranspose

namespace Pyma
namespace Greens

variable {K : Type} [Field K] [StarRing K] {n m : Type} [Fintype n] [Fintype m] [DecidableEq n]
  [DecidableEq m]

/-- the matrix with the pivot equations replaced by `x[r] = 0` constraints -/
def constrain (A : Matrix n n K) (piv : n → Prop) [DecidablePred piv] : Matrix n n K :=
  fun r c => if piv r then (if r = c then 1 else 0) else A r c

theorem complement_proj {R : Type} [Ring R] {Kv : Matrix n m R} {Lh : Matrix m n R} (h : Lh * Kv = 1) :
    (1 - Kv * Lh) * (1 - Kv * Lh) = 1 - Kv * Lh ∧ Lh * (1 - Kv * Lh) = 0 := by
  have hL : Lh * (1 - Kv * Lh) = 0 := by rw [Matrix.mul_sub, Matrix.mul_one, ← Matrix.mul_assoc, h, Matrix.one_mul, sub_self]
  exact ⟨by rw [Matrix.sub_mul, Matrix.one_mul, Matrix.mul_assoc, hL, Matrix.mul_zero, sub_zero], hL⟩

theorem direct_solve (A : Matrix n n K) (Kv Lv : Matrix n m K) (piv : n → Prop) [DecidablePred piv]
    (hAK : A * Kv = 0) (hLA : Lv.conjTranspose * A = 0) (hLK : Lv.conjTranspose * Kv = 1)
    (hinj : ∀ w : n → K, (∀ r, ¬ piv r → w r = 0) → Lv.conjTranspose.mulVec w = 0 → w = 0)
    (v z : n → K)
    (hz : (constrain A piv).mulVec z = fun r => if piv r then 0 else ((1 - Kv * Lv.conjTranspose).mulVec v) r) :
    A.mulVec ((1 - Kv * Lv.conjTranspose).mulVec z) = (1 - Kv * Lv.conjTranspose).mulVec v ∧
    (1 - Kv * Lv.conjTranspose).mulVec ((1 - Kv * Lv.conjTranspose).mulVec z)
      = (1 - Kv * Lv.conjTranspose).mulVec z := by
  obtain ⟨hPP, hLP⟩ := complement_proj hLK
  have hAP : A * (1 - Kv * Lv.conjTranspose) = A := by
    rw [Matrix.mul_sub, Matrix.mul_one, ← Matrix.mul_assoc, hAK, Matrix.zero_mul, sub_zero]
  generalize 1 - Kv * Lv.conjTranspose = P at *
  -- `A z - P v` vanishes off the pivots (there `constrain A piv` has the rows of `A`) and is killed by `L†`
  have hw : A.mulVec z - P.mulVec v = 0 :=
    hinj _ (fun r hr => sub_eq_zero.mpr (by simpa only [constrain, Matrix.mulVec, hr, ↓reduceIte] using congrFun hz r))
      (by rw [Matrix.mulVec_sub, Matrix.mulVec_mulVec, Matrix.mulVec_mulVec, hLA, hLP, Matrix.zero_mulVec, Matrix.zero_mulVec, sub_self])
  exact ⟨by rw [Matrix.mulVec_mulVec, hAP]; exact sub_eq_zero.mp hw, by rw [Matrix.mulVec_mulVec, hPP]⟩

/-! `solve_sylvester_direct` answers a right-implicit request `(i, B)` row by row: row `a` of the result is the constrained solve for the level
`e a` of the transposed problem, applied to row `a` of `Y P`; a left-implicit request `(B, i)` column by column. -/

omit [StarRing K] in
theorem rows_assemble {α : Type} [Fintype α] [DecidableEq α] {H P : Matrix n n K} {e : α → K} {x y : α → n → K}
    (hsolve : ∀ a, (e a • (1 : Matrix n n K) - H.transpose).mulVec (x a) = P.transpose.mulVec (y a))
    (hrange : ∀ a, P.transpose.mulVec (x a) = x a) :
    Matrix.diagonal e * Matrix.of x - Matrix.of x * H = Matrix.of y * P ∧ Matrix.of x * P = Matrix.of x := by
  -- row `a` of `X * M` is `x a ᵥ* M = Mᵀ *ᵥ x a`
  constructor
  · ext a c
    have h := congrFun (hsolve a) c
    rw [Matrix.sub_mulVec, Matrix.smul_mulVec, Matrix.one_mulVec, Matrix.mulVec_transpose, Matrix.mulVec_transpose] at h
    rw [Matrix.sub_apply, Matrix.diagonal_mul, Matrix.mul_apply_eq_vecMul, Matrix.mul_apply_eq_vecMul]
    exact h
  · ext a c
    rw [Matrix.mul_apply_eq_vecMul, ← Matrix.mulVec_transpose]
    exact congrFun (hrange a) c

omit [StarRing K] in
theorem cols_assemble {α : Type} [Fintype α] [DecidableEq α] {H P : Matrix n n K} {e : α → K} {x y : α → n → K}
    (hsolve : ∀ a, (H - e a • (1 : Matrix n n K)).mulVec (x a) = P.mulVec (y a))
    (hrange : ∀ a, P.mulVec (x a) = x a) :
    H * (Matrix.of x).transpose - (Matrix.of x).transpose * Matrix.diagonal e = P * (Matrix.of y).transpose ∧
      P * (Matrix.of x).transpose = (Matrix.of x).transpose := by
  -- column `a` of `M * Xᵀ` is `M *ᵥ x a`, by unfolding
  constructor
  · ext c a
    have h := congrFun (hsolve a) c
    rw [Matrix.sub_mulVec, Matrix.smul_mulVec, Matrix.one_mulVec] at h
    rw [Matrix.sub_apply, Matrix.mul_diagonal, mul_comm]
    exact h
  · ext c a
    exact congrFun (hrange a) c

end Greens
end Pyma
#print axioms Pyma.Greens.direct_solve
