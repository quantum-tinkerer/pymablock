/-
Theorem H for the two-block optimisation.  With a ℤ/2-grading (block-diagonal = even,
block-off-diagonal = odd, the latter split into its upper and lower part), the optimised
recurrences

  2 W = -Ev(Q P)            (off-diagonal blocks of `W` are not computed)
  Y   = Up(X†) + Lo(X)      (`X.adj` instead of `(X.adj + X)/2`, lower block by the fill)

imply the unoptimised ones, hence every conclusion of Theorem H.  `W` is even, so Hermitian (`Wstar`), so it
commutes with `V` (`WV_comm`): `eqW`.  `Y` is Hermitian by the fill and is `[V, HS]` by the Sylvester
equation, and `X` is the true commutator (`X_eq_comm`): `eqY`.  `Wstar`, `WV_comm` and `X_eq_comm` are
contraction arguments; there is no induction on the order.
-/
import PymaVerif.Proofs.CoreH

namespace Pyma
namespace TheoremH2
open TheoremH
variable {S : Type*} [Ring S] [StarRing S]

structure Hyp2 (S : Type*) [Ring S] [StarRing S] where
  Φ : Filtration S
  two_cancel : ∀ x y : S, 2 * x = 2 * y → x = y
  two_mem : ∀ k (x : S), 2 * x ∈ Φ.F k → x ∈ Φ.F k
  star_mem : ∀ k (x : S), x ∈ Φ.F k → star x ∈ Φ.F k
  Ev : S →+ S
  Up : S →+ S
  Lo : S →+ S
  split : ∀ x, x = Ev x + Up x + Lo x
  Ev_Ev : ∀ x, Ev (Ev x) = Ev x
  Up_Ev : ∀ x, Up (Ev x) = 0
  Lo_Ev : ∀ x, Lo (Ev x) = 0
  Ev_star : ∀ x, star (Ev x) = Ev (star x)
  Up_star : ∀ x, star (Up x) = Lo (star x)
  Ev_mem : ∀ k x, x ∈ Φ.F k → Ev x ∈ Φ.F k
  Up_mem : ∀ k x, x ∈ Φ.F k → Up x ∈ Φ.F k
  Lo_mem : ∀ k x, x ∈ Φ.F k → Lo x ∈ Φ.F k
  ee : ∀ x y, Ev x = x → Ev y = y → Ev (x * y) = x * y
  oo : ∀ x y, Ev x = 0 → Ev y = 0 → Ev (x * y) = x * y
  eo : ∀ x y, Ev x = x → Ev y = 0 → Ev (x * y) = 0
  oe : ∀ x y, Ev x = 0 → Ev y = y → Ev (x * y) = 0
  H0 : S
  Hd : S
  Ho : S
  W : S
  V : S
  X : S
  B : S
  Y : S
  Ht : S
  H0star : star H0 = H0
  H0ev : Ev H0 = H0
  Hdstar : star Hd = Hd
  Hdev : Ev Hd = Hd
  Hostar : star Ho = Ho
  Hoodd : Ev Ho = 0
  Vstar : star V = -V
  Vodd : Ev V = 0
  Wmem : W ∈ Φ.F 1
  Vmem : V ∈ Φ.F 1
  eqW2 : 2 * W = -Ev ((W - V) * (W + V))
  Yev : Ev Y = 0
  Ylo : Lo Y = Lo X
  Yup : Up Y = Up (star X)
  eqX : X = B + Ho + Ho * (W + V)
  eqBsel : 2 * Ev B = Ev (-((W - V) * B - star ((W - V) * B) + Ho * (W + V) + star (Ho * (W + V)))
              + 2 * (V * Hd + star (V * Hd)))
  eqBrem : B - Ev B = (-((W - V) * B)) - Ev (-((W - V) * B))
  eqV : H0 * V - V * H0 = -((star Y - V * Hd - star (V * Hd)) - Ev (star Y - V * Hd - star (V * Hd)))
  eqHt : 2 * Ht = 2 * H0 + Ev (2 * Hd + (Ho * (W + V) + star (Ho * (W + V)))
              - ((W - V) * B + star ((W - V) * B)) - 2 * Y)

variable (h : Hyp2 S)

theorem Lo_star (x : S) : star (h.Lo x) = h.Up (star x) := by
  rw [← star_star (h.Up (star x)), h.Up_star, star_star]

theorem Wev : h.Ev h.W = h.W := by
  apply h.two_cancel
  rw [← CoreFill.map_two, h.eqW2, map_neg, h.Ev_Ev]

theorem Wstar : star h.W = h.W :=
  CoreFill.star_eq_of_diag h.Φ h.two_mem h.star_mem h.Ev h.Ev_mem h.Ev_star h.Wmem h.Vmem h.Vstar
    (by rw [map_sub, ← h.Ev_star, Wev]) (by rw [Wev]; exact h.eqW2)

theorem EvQP : h.Ev ((h.W - h.V) * (h.W + h.V)) = h.W * h.W - h.V * h.V := by
  rw [sub_mul, mul_add, mul_add, map_sub, map_add, map_add, h.ee _ _ (Wev h) (Wev h),
    h.eo _ _ (Wev h) h.Vodd, h.oe _ _ h.Vodd (Wev h), h.oo _ _ h.Vodd h.Vodd, add_zero, zero_add]

theorem WV_comm : h.W * h.V - h.V * h.W = 0 := by
  have e : 2 * h.W + h.W * h.W = h.V * h.V := by rw [h.eqW2, EvQP]; abel
  apply h.Φ.eq_zero_of_sylvester h.two_mem h.Wmem h.Wmem
  calc (1 + h.W) * (h.W * h.V - h.V * h.W) + (h.W * h.V - h.V * h.W) * (1 + h.W)
      = (2 * h.W + h.W * h.W) * h.V - h.V * (2 * h.W + h.W * h.W) := by rw [two_mul]; noncomm_ring
    _ = 0 := by rw [e, mul_assoc, sub_self]

theorem eqW : 2 * h.W = -((h.W - h.V) * (h.W + h.V)) := by
  have e : (h.W - h.V) * (h.W + h.V) = (h.W * h.W - h.V * h.V) + (h.W * h.V - h.V * h.W) := by
    rw [sub_mul, mul_add, mul_add]; abel
  rw [e, WV_comm, add_zero, h.eqW2, EvQP]

def toBase : Base S where
  Φ := h.Φ
  two_cancel := h.two_cancel
  two_mem := h.two_mem
  Sel := h.Ev
  Sstar := h.Ev_star
  H0 := h.H0
  Hd := h.Hd
  Ho := h.Ho
  W := h.W
  V := h.V
  X := h.X
  B := h.B
  Y := h.Y
  Ht := h.Ht
  H0star := h.H0star
  H0sel := h.H0ev
  Hdstar := h.Hdstar
  Hdsel := h.Hdev
  Hostar := h.Hostar
  Hosel := h.Hoodd
  Wstar := Wstar h
  Vstar := h.Vstar
  Wmem := h.Wmem
  Vmem := h.Vmem
  eqX := h.eqX
  eqBsel := h.eqBsel
  eqBrem := h.eqBrem
  eqV := h.eqV
  eqHt := h.eqHt

local notation "P" => (Hyp2.W h + Hyp2.V h)
local notation "Q" => (Hyp2.W h - Hyp2.V h)
local notation "HS" => (Hyp2.H0 h + Hyp2.Hd h)
local notation "Xs" => (P * HS - HS * P)

theorem unitary : (1 + Q) * (1 + P) = 1 := one_add_mul_one_add (eqW h)

theorem starY : star h.Y = h.Y := by
  have e : h.Y = h.Up (star h.X) + h.Lo h.X := by
    conv_lhs => rw [h.split h.Y, h.Yev, h.Ylo, h.Yup, zero_add]
  rw [e, star_add, h.Up_star, Lo_star, star_star, add_comm]

theorem HSev : h.Ev HS = HS := by rw [map_add, h.H0ev, h.Hdev]

theorem EvC : h.Ev (h.V * h.Hd + star (h.V * h.Hd)) = 0 := by
  rw [map_add, ← h.Ev_star, h.oe _ _ h.Vodd h.Hdev, star_zero, add_zero]

theorem Y_comm : h.Y = h.V * HS - HS * h.V :=
  Y_comm_of (toBase h) (starY h) ((h.Yev).trans (EvC h).symm)

theorem Xs_herm : Xs + star Xs = 2 * h.Y := by
  rw [Y_comm]; exact TheoremH.Xs_herm (toBase h)

theorem X_eq_comm : h.X = Xs := by
  have hLo : h.Lo (h.X - Xs) = 0 := by
    have e : Xs = h.Ev (h.W * HS - HS * h.W) + h.Y := by
      rw [map_sub, h.ee _ _ (Wev h) (HSev h), h.ee _ _ (HSev h) (Wev h), Y_comm, add_mul h.W, mul_add HS]; abel
    rw [map_sub, e, map_add, h.Lo_Ev, zero_add, h.Ylo, sub_self]
  have hEv : h.Ev (h.X - Xs) + h.Ev (star (h.X - Xs)) = 0 := by
    have e1 : h.Ev h.X + h.Ev (star h.X) = 2 * h.Ev (h.V * h.Hd + star (h.V * h.Hd)) := selX_herm (toBase h)
    have e2 : h.Ev (Xs + star Xs) = 0 := by rw [Xs_herm, CoreFill.map_two, h.Yev, mul_zero]
    rw [EvC, mul_zero] at e1
    rw [← map_add, star_sub, sub_add_sub_comm, map_sub, e2, sub_zero, map_add, e1]
  have hZ : (1 + Q) * (h.X - Xs) = star (h.X - Xs) * (1 + P) :=
    X_sub_comm_hermitian (toBase h) (unitary h)
  apply sub_eq_zero.mp
  generalize h.X - Xs = Δ at hLo hEv hZ ⊢
  rw [add_mul, mul_add, one_mul, mul_one] at hZ
  apply h.Φ.eq_zero_of_contract
  intro k hk
  have hR : Δ - star Δ ∈ h.Φ.F (k+1) := by
    rw [sub_eq_sub_iff_add_eq_add.mpr (hZ.trans (add_comm _ _))]
    exact sub_mem (h.Φ.mul_right_mem (h.star_mem _ _ hk) (Pmem (toBase h))) (h.Φ.mul_left_mem (Qmem (toBase h)) hk)
  -- `Δ† = −Δ` is known on the even part only, but `Δ` has no lower and `Δ†` no upper part:
  -- `Δ − Δ†` has even part `2 Ev Δ` and upper part `Up Δ`
  have hE : h.Ev Δ ∈ h.Φ.F (k+1) := by
    apply h.two_mem
    have := h.Ev_mem _ _ hR
    rwa [map_sub, eq_neg_of_add_eq_zero_right hEv, sub_neg_eq_add, ← two_mul] at this
  have hU : h.Up Δ ∈ h.Φ.F (k+1) := by
    have := h.Up_mem _ _ hR
    rwa [map_sub, ← Lo_star, hLo, star_zero, sub_zero] at this
  rw [h.split Δ, hLo, add_zero]
  exact add_mem hE hU

theorem eqY : 2 * h.Y = star h.X + h.X := by
  rw [X_eq_comm, add_comm, Xs_herm]

def toHyp : Hyp S where
  toBase := toBase h
  eqW := eqW h
  eqY := eqY h

theorem main_identity :
    (1 + Q) * (HS + h.Ho) * (1 + P) = h.Ht := TheoremH.main_identity (toHyp h)

theorem unitary' : (1 + P) * (1 + Q) = 1 := TheoremH.unitary' (toHyp h)

end TheoremH2
end Pyma
#print axioms Pyma.TheoremH2.main_identity
