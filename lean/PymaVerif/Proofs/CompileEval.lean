/-
C09, second half: on well-formed code the evaluator of compiled bodies is sound for the ring-level denotation `cSem`.
Together with `stmtWF_compile` and `cStmtSem_compile`: whatever a compiled body returns satisfies the one-step
semantics of the source clauses.
-/
import PymaVerif.Proofs.CompileSound
import PymaVerif.Proofs.DslSound

namespace Pyma
namespace Dsl

variable {K : Type} [Field K] [StarRing K] [DecidableEq K] [Thresholds K]
attribute [local instance] Scalar.ofField
variable {B : Blocks} {p : Prog} {env : Env K}

def LookupSem (B : Blocks) (p : Prog) (env : Env K) (lookup : Lookup K) : Prop :=
  ∀ x idx c v c', lookup x idx c = .ok (v, c') → Supp B idx v ∧ sem B idx v = mat B p env x idx

theorem Means.sumVals {idx : Idx} : ∀ (vs : List (SVal K)) {acc w : SVal K} {A : MatK K B},
    Means B idx acc A → (∀ v ∈ vs, Supp B idx v) → Dsl.sumVals acc vs = .ok w →
    Means B idx w (A + (vs.map (sem B idx)).sum) := by
  intro vs
  induction vs with
  | nil =>
    intro acc w A hacc _ h
    simp only [Dsl.sumVals, pure, Except.pure, Except.ok.injEq] at h
    subst h
    simpa using hacc
  | cons v vs ih =>
    intro acc w A hacc hvs h
    simp only [Dsl.sumVals, bind, Except.bind] at h
    split at h
    · cases h
    · rename_i a ha
      rw [List.map_cons, List.sum_cons, ← add_assoc]
      exact ih (hacc.vadd (hvs v List.mem_cons_self).means ha)
        (fun u hu => hvs u (List.mem_cons_of_mem _ hu)) h

theorem evalCE_call_val {lookup : Lookup K} {idx : Idx} {res : SVal K} {f : String} {hh : CExpr}
    (hns : ∀ x, hh ≠ .serArg x) :
    evalCE env lookup idx res (.call f (.acons hh .anil)) = fun c =>
      match evalCE env lookup idx res hh c with
      | .ok (v, c) =>
          if f == "diag" then .ok (env.diag v idx, c)
          else if f == "offdiag" then
            match env.offdiag with
            | some od => .ok (od v idx, c)
            | none => .error (.scope "offdiag is None")
          else liftE (env.fn f (.inr v) idx) c
      | .error err => .error err := by
  cases hh with
  | serArg x => exact absurd rfl (hns x)
  | _ => rfl

def PE (p : Prog) (S : EnvSem B env) (lookup : Lookup K) (idx : Idx) (dOK : Bool) (ce : CExpr) : Prop :=
  ∀ c res v c', wfc dOK ce = true → Supp B idx res → evalCE env lookup idx res ce c = .ok (v, c') →
    Supp B idx v ∧ sem B idx v = cSem S p idx (sem B idx res) ce

def PA (p : Prog) (S : EnvSem B env) (lookup : Lookup K) (idx : Idx) (dOK : Bool) (ce : CExpr) : Prop :=
  ∀ c res vs c', wfl dOK ce = true → Supp B idx res → evalCArgs env lookup idx res ce c = .ok (vs, c') →
    (∀ v ∈ vs, Supp B idx v) ∧ (vs.map (sem B idx)).sum = cSem S p idx (sem B idx res) ce

section
variable (S : EnvSem B env) (he : EnvOK B env) {lookup : Lookup K} (hl : LookupSem B p env lookup)
  {idx : Idx} {dOK : Bool} (hd : dOK = true → idx.swap = idx)

include he hl hd in
/-- `PE` and `PA` for a given value `res` of `result`, as `Sound` steps (nothing is asked of the memo table) -/
theorem evalC_sound {res : SVal K} (hres : Supp B idx res) (ce : CExpr) :
    (wfc dOK ce = true → Sound (fun _ => True) (evalCE env lookup idx res ce)
      fun v => Means B idx v (cSem S p idx (sem B idx res) ce)) ∧
    (wfl dOK ce = true → Sound (fun _ => True) (evalCArgs env lookup idx res ce)
      fun vs => (∀ v ∈ vs, Supp B idx v) ∧ (vs.map (sem B idx)).sum = cSem S p idx (sem B idx res) ce) := by
  have hlk : ∀ x idx', Sound (fun _ => True) (lookup x idx') fun v => Means B idx' v (mat B p env x idx') :=
    fun x idx' c v c' _ e => ⟨hl x idx' c v c' e, trivial⟩
  induction ce with
  | result => exact ⟨fun _ => .pure ⟨hres, rfl⟩, nofun⟩
  | zero => exact ⟨fun _ => .pure ⟨trivial, rfl⟩, nofun⟩
  | elem x sw =>
    refine ⟨fun hw => ?_, nofun⟩
    cases sw
    · exact hlk x idx
    · cases hw
  | serArg x => exact ⟨nofun, nofun⟩
  | dagger e _ =>
    refine ⟨fun hw => ?_, nofun⟩
    cases e with
    | elem x sw =>
      have hidx : (if sw = true then idx.swap else idx) = idx.swap := by
        cases sw
        · exact (hd (by simpa [wfc] using hw)).symm
        · rfl
      simp only [evalCE, cSem, hidx]
      exact (hlk x idx.swap).bind fun w hw' => .pure hw'.vadj
    | _ => cases hw
  | neg e ih => exact ⟨fun hw => (ih.1 hw).bind fun w hw' => Sound.liftE.imp fun v => hw'.vneg, nofun⟩
  | zsum a ih =>
    refine ⟨fun hw => (ih.2 hw).bindL fun vs hvs => Sound.liftE.imp fun v hv => ?_, nofun⟩
    obtain ⟨h3, h4⟩ := Means.sumVals vs (acc := .zero) (A := 0) ⟨trivial, rfl⟩ hvs.1 hv
    exact ⟨h3, (h4.trans (zero_add _)).trans hvs.2⟩
  | sdiv e k ih => exact ⟨fun hw => (ih.1 hw).bind fun w hw' => Sound.liftE.imp fun v => hw'.vdiv, nofun⟩
  | call f a ih =>
    refine ⟨fun hw => ?_, nofun⟩
    obtain ⟨hh, rfl⟩ : ∃ hh, a = .acons hh .anil := by
      cases a with
      | acons hh t =>
        cases t with
        | anil => exact ⟨hh, rfl⟩
        | _ => simp [wfc] at hw
      | _ => cases hw
    by_cases hser : ∃ x, hh = .serArg x
    · -- a bare series name: looked up and handed to `diag` / `offdiag`, or passed on by name
      obtain ⟨x, rfl⟩ := hser
      simp only [evalCE, cSem]
      refine .ite (fun hfd => ?_) fun hfd => .ite (fun hfo => ?_) fun hfo => ?_
      · rw [if_pos hfd]; exact (hlk x idx).bind fun w hw' => .pure (hw'.diag he S)
      · rw [if_neg hfd, if_pos hfo]
        cases ho : env.offdiag with
        | none => exact .error
        | some od => exact (hlk x idx).bind fun w hw' => .pure (hw'.offdiag he S ho)
      · rw [if_neg hfd, if_neg hfo]
        exact Sound.liftE.imp fun v hv => ⟨he.fnSer f x idx v hv, S.fnSer_ok f x idx v hv⟩
    · -- a value: the induction hypothesis is the one for the argument list
      have hns : ∀ x, hh ≠ .serArg x := fun x hx => hser ⟨x, hx⟩
      rw [wfc_call_val hns] at hw
      rw [evalCE_call_val hns, cSem_call_val hns]
      have harg : Sound (fun _ => True) (evalCE env lookup idx res hh)
          fun w => Means B idx w (cSem S p idx (sem B idx res) hh) := fun c w c1 _ hev => by
        obtain ⟨h1, h2⟩ := (ih.2 (by simp [wfl, hw]) c [w] c1 trivial (by simp only [evalCArgs, hev])).1
        exact ⟨⟨h1 w (by simp), by simpa [cSem] using h2⟩, trivial⟩
      refine harg.bind fun w hw1 => .ite (fun hfd => ?_) fun hfd => .ite (fun hfo => ?_) fun hfo => ?_
      · rw [if_pos hfd]; exact .pure (hw1.diag he S)
      · rw [if_neg hfd, if_pos hfo]
        cases ho : env.offdiag with
        | none => exact .error
        | some od => exact .pure (hw1.offdiag he S ho)
      · rw [if_neg hfd, if_neg hfo]; exact Sound.liftE.imp fun v hv => hw1.fnVal he S hv
  | ite fl t e iht ihe =>
    refine ⟨fun hw => ?_, nofun⟩
    simp only [wfc, Bool.and_eq_true] at hw
    simp only [cSem]
    exact .ite (fun hf => by rw [if_pos hf]; exact iht.1 hw.1) fun hf => by rw [if_neg hf]; exact ihe.1 hw.2
  | anil => exact ⟨nofun, fun _ => .pure ⟨nofun, rfl⟩⟩
  | acons hh t ihh iht =>
    refine ⟨nofun, fun hw => ?_⟩
    simp only [wfl, Bool.and_eq_true] at hw
    exact (ihh.1 hw.1).bind fun w hw' => (iht.2 hw.2).bindL fun ws hws => .pure
      ⟨fun u hu => (List.mem_cons.mp hu).elim (· ▸ hw'.1) (hws.1 u), by simp [cSem, hw'.2, hws.2]⟩

end

section sound
variable (S : EnvSem B env) (he : EnvOK B env) (lookup : Lookup K) (hl : LookupSem B p env lookup)
  (idx : Idx) (dOK : Bool) (hd : dOK = true → idx.swap = idx)

include he hl hd in
theorem eval_sound : ∀ ce, PE p S lookup idx dOK ce ∧ PA p S lookup idx dOK ce :=
  fun ce => ⟨fun c _ v c' hw hres e => ((evalC_sound S he hl hd hres ce).1 hw c v c' trivial e).1,
    fun c _ vs c' hw hres e => ((evalC_sound S he hl hd hres ce).2 hw c vs c' trivial e).1⟩

end sound

section stmts
variable (S : EnvSem B env) (he : EnvOK B env) (lookup : Lookup K) (hl : LookupSem B p env lookup) (idx : Idx)

include he hl in
theorem evalCStmts_sem : ∀ (stmts : List CStmt), (∀ st ∈ stmts, stmtWF st) → ∀ acc, Supp B idx acc →
    Sound (fun _ => True) (evalCStmts env lookup idx stmts acc) fun v => Means B idx v (cStmtSem S p idx stmts (sem B idx acc))
  | [], _, acc, hacc => .pure ⟨hacc, rfl⟩
  | st :: rest, hwf, acc, hacc => by
    have hst := hwf st List.mem_cons_self
    have noswap : (false = true → idx.swap = idx) := nofun
    have skip := evalCStmts_sem rest (fun st' h => hwf st' (List.mem_cons_of_mem _ h)) acc hacc
    have expr := fun dOK hd e => (evalC_sound S he hl (dOK := dOK) hd hacc e).1
    have fire := fun dOK hd e hw => (expr dOK hd e hw).bind fun w hw' =>
      (evalCStmts_sem rest (fun st' h => hwf st' (List.mem_cons_of_mem _ h)) w hw'.1).imp fun v hv =>
        (⟨hv.1, by rw [hv.2, hw'.2]⟩ : Means B idx v (cStmtSem S p idx rest (cSem S p idx (sem B idx acc) e)))
    cases st with
    | assign e => exact fire false noswap e hst
    | lower e =>
      simp only [cStmtSem]
      exact .ite (fun h => by rw [if_pos h]; exact expr false noswap e hst) fun h => by rw [if_neg h]; exact skip
    | diag e =>
      simp only [cStmtSem]
      exact .ite (fun h => by rw [if_pos h]; exact fire true (fun _ => swap_of_diag h) e hst) fun h => by
        rw [if_neg h]; exact skip
    | off e =>
      simp only [cStmtSem]
      exact .ite (fun h => by rw [if_pos h]; exact fire false noswap e hst) fun h => by rw [if_neg h]; exact skip
    | offwrap e =>
      simp only [cStmtSem]
      exact .ite (fun h => by rw [if_pos h]; exact fire false noswap e hst) fun h => by rw [if_neg h]; exact skip

include he hl in
/-- **C09 (compile soundness)**: whatever the compiled body of a series returns — run with any lookup
whose answers are the denotations of the program — is, at ring level, the one-step semantics of the
source clauses -/
theorem compile_sound (self : String) (body : List Stmt) (hb : ∀ st ∈ body, st.noReserved = true)
    (acc : SVal K) (c : Cache K) (v : SVal K) (c' : Cache K) (hacc : Supp B idx acc)
    (h : evalCStmts env lookup idx (body.flatMap (compileStmt self)) acc c = .ok (v, c')) :
    Supp B idx v ∧ sem B idx v = bodySem S p self idx body (sem B idx acc) := by
  obtain ⟨h1, h2⟩ := (evalCStmts_sem S he lookup hl idx _ (stmtWF_compile self body) acc hacc c v c' trivial h).1
  exact ⟨h1, by rw [h2, cStmtSem_compile self body hb]⟩

end stmts

end Dsl
end Pyma

#print axioms Pyma.Dsl.compile_sound
