/-
C05 for the model, partial: the series computed by the translated `nonhermitian` program satisfy
`U_inv · U = 1 = U · U_inv`, `U_inv · H · U = H̃`, `H̃` has no eliminated entry, and `U − U_inv` has
no kept entry — for every accepted problem in which **no kept pair of states joins two different
unperturbed energies**.  Without that hypothesis the statement is false (`D5Witness.lean`).
-/
import PymaVerif.Proofs.MainKinds
import PymaVerif.Proofs.ProblemSeries
import PymaVerif.Proofs.CoreN

namespace Pyma
namespace BlockDiag
open Dsl Generated MvPowerSeries
namespace Problem
namespace Nh

variable {K : Type} [Field K] [StarRing K] [DecidableEq K] [Thresholds K]
attribute [local instance] Scalar.ofField
variable (p : Problem K)

def Total : Prop := ∀ x ∈ nhNames, ∀ idx, ∃ v, Den nonhermitian p.env x idx v

noncomputable abbrev sr (x : String) : Sr (Fin p.nparams) K p.d := Ser p.blocks nonhermitian p.env p.nparams x

structure Ready : Prop where
  wf : p.WF
  tot : Total p
  hN : ∀ a : Fin p.d, p.blk a.val < p.nblocks

/-- what the proof uses about an accepted problem (no Hermiticity, no symmetry of the mask) -/
structure AccN : Prop where
  H0_spec : G p.blocks nonhermitian p.env "H" (toList (0 : Fin p.nparams →₀ ℕ)) = p.H0mat
  diag_kept : ∀ a : Fin p.d, p.keptE a.val a.val = true
  gap : ∀ a b : Fin p.d, p.keptE a.val b.val = false →
    Scalar.absGt (p.energy a.val - p.energy b.val) p.atol = true
  absGt_ne : ∀ x : K, Thresholds.absGt x p.atol = true → x ≠ 0
  /-- the extra hypothesis: kept pairs are degenerate -/
  kept_deg : ∀ a b : Fin p.d, p.keptE a.val b.val = true → p.energy a.val = p.energy b.val

variable (R : Ready p) (A : AccN p) (h2 : (2 : K) ≠ 0)

/-- the names of `nonhermitian` whose series have no constant term, each before the names that show it -/
def nhZ : List String := nhProducts ++ ["H'_diag", "H'_offdiag", "U'", "U_inv'", "X", "B"]

theorem nh_table : nonhermitian.tableOK nhNames nhZ = true := by decide +kernel

variable {p} in
theorem Ready.runs (R : Ready p) : p.Runs nonhermitian nhNames nhZ := ⟨R.wf, R.hN, R.tot, nh_table⟩

include R in
theorem F1_P : sr p "U'" ∈ FDeg (Fin p.nparams) (Mt K p.d) 1 := R.runs.noConst "U'" (by simp [nhZ, nhProducts])
include R in
theorem F1_G : sr p "U_inv'" ∈ FDeg (Fin p.nparams) (Mt K p.d) 1 := R.runs.noConst "U_inv'" (by simp [nhZ, nhProducts])
include R in
theorem F1_X : sr p "X" ∈ FDeg (Fin p.nparams) (Mt K p.d) 1 := R.runs.noConst "X" (by simp [nhZ, nhProducts])

include R in
theorem sr_prod {x a b : String} (hf : findSeries nonhermitian x = none ∧ findProduct nonhermitian x = some (a, b)) :
    sr p a * sr p b = sr p x := Ser_prod R.runs hf

include R in
theorem eqG : sr p "U_inv'" = -sr p "U'" - sr p "U_inv'" * sr p "U'" := by
  rw [sr_prod p R nprod_GP]
  ext m a b
  rw [coeff_Ser R.runs nfind_G]
  simp only [startE, bodyE, exprE, zero_add]; rfl

include R in
theorem eqB : sr p "B" = sr p "X" + sr p "H'_offdiag" + sr p "H'_offdiag" * sr p "U'" := by
  rw [sr_prod p R nprod_A]
  ext m a b
  rw [coeff_Ser R.runs nfind_B]
  simp only [startE, bodyE, exprE, zero_add]; rfl

include R in
theorem sr_U : sr p "U" = 1 + sr p "U'" := Ser_one_add R.runs nfind_U

include R in
theorem sr_Ud : sr p "U†" = 1 + sr p "U_inv'" := Ser_one_add R.runs nfind_Ud

include R in
theorem c_X (m : Fin p.nparams →₀ ℕ) (a b : Fin p.d) :
    coeff m (sr p "X") a b =
      if p.keptE a.val b.val then coeff m (sr p "H'_diag @ U'") a b - coeff m (sr p "U' @ H'_diag") a b
      else -(coeff m (sr p "H'_offdiag") a b + coeff m (sr p "H'_offdiag @ U'") a b
        + coeff m (sr p "U_inv' @ B") a b) := by
  rw [coeff_Ser R.runs nfind_X]
  simp only [startE, bodyE, exprE, zero_add]
  cases p.keptE a.val b.val <;> simp only [Bool.false_eq_true, ↓reduceIte, zero_add, add_zero]

include R in
theorem c_P (m : Fin p.nparams →₀ ℕ) (a b : Fin p.d) :
    coeff m (sr p "U'") a b =
      if p.keptE a.val b.val then ((-2 : ℤ) : K)⁻¹ * coeff m (sr p "U_inv' @ U'") a b
      else p.callE "solve_sylvester" a b
        (coeff m (sr p "X") a b - coeff m (sr p "H'_diag @ U'") a b + coeff m (sr p "U' @ H'_diag") a b) := by
  rw [coeff_Ser R.runs nfind_P]
  simp only [startE, bodyE, exprE, zero_add]
  cases p.keptE a.val b.val <;> simp only [Bool.false_eq_true, ↓reduceIte, zero_add, add_zero]

include R in
theorem c_Ht (m : Fin p.nparams →₀ ℕ) (a b : Fin p.d) :
    coeff m (sr p "H_tilde") a b = coeff m (C (coeff 0 (sr p "H"))) a b +
      if p.keptE a.val b.val then
        coeff m (sr p "H'_diag") a b + coeff m (sr p "B") a b + coeff m (sr p "U_inv' @ B") a b
      else 0 := by
  rw [coeff_Ser R.runs nfind_Ht]
  simp only [startE, bodyE, exprE, zero_add]

include R A in
theorem sr_H : sr p "H" = p.H0s + sr p "H'_diag" + sr p "H'_offdiag" :=
  Ser_input_split R.runs A.H0_spec nfind_Hd nfind_Ho

include A in
/-- Theorem N's hypothesis `comm`: kept pairs are degenerate, so the kept part of any series commutes with `H_0` -/
theorem H0s_comm_SelS (x : Sr (Fin p.nparams) K p.d) : p.H0s * p.SelS x = p.SelS x * p.H0s := by
  ext m a b
  rw [coeff_H0s_mul, coeff_mul_H0s, coeff_SelS]
  split
  · rename_i hk; rw [A.kept_deg a b hk, mul_comm]
  · rw [mul_zero, zero_mul]

include R h2 in
theorem eqPsel : 2 * p.SelS (sr p "U'") = -p.SelS (sr p "U_inv'" * sr p "U'") := by
  rw [sr_prod p R nprod_GP]
  ext m a b
  rw [coeff_two_mul_apply, coeff_neg_apply, coeff_SelS, coeff_SelS, c_P p R]
  split
  · exact neg_two_inv_mul h2 _
  · rw [mul_zero, neg_zero]

include R in
theorem eqXsel : p.SelS (sr p "X") = p.SelS (sr p "H'_diag" * sr p "U'" - sr p "U'" * sr p "H'_diag") := by
  rw [sr_prod p R nprod_HdP, sr_prod p R nprod_PHd]
  ext m a b
  rw [coeff_SelS, coeff_SelS, coeff_sub_apply, c_X p R]
  split <;> rfl

include R in
theorem eqXrem : sr p "X" - p.SelS (sr p "X")
    = -(sr p "H'_offdiag" + sr p "H'_offdiag" * sr p "U'" + sr p "U_inv'" * sr p "B")
      - p.SelS (-(sr p "H'_offdiag" + sr p "H'_offdiag" * sr p "U'" + sr p "U_inv'" * sr p "B")) := by
  rw [sr_prod p R nprod_A, sr_prod p R nprod_GB]
  ext m a b
  simp only [coeff_sub_apply, coeff_neg_apply, coeff_add_apply, coeff_SelS, c_X p R]
  cases p.keptE a.val b.val <;> simp only [Bool.false_eq_true, ↓reduceIte, sub_zero, sub_self]

include R A in
theorem eqPrem : p.H0s * (sr p "U'" - p.SelS (sr p "U'")) - (sr p "U'" - p.SelS (sr p "U'")) * p.H0s
    = (sr p "X" - sr p "H'_diag" * sr p "U'" + sr p "U'" * sr p "H'_diag")
      - p.SelS (sr p "X" - sr p "H'_diag" * sr p "U'" + sr p "U'" * sr p "H'_diag") := by
  rw [sr_prod p R nprod_HdP, sr_prod p R nprod_PHd]
  ext m a b
  simp only [coeff_sub_apply, coeff_add_apply, coeff_SelS, coeff_H0s_mul, coeff_mul_H0s]
  cases hk : p.keptE a.val b.val
  · simp only [Bool.false_eq_true, ↓reduceIte, sub_zero]
    rw [mul_comm _ (p.energy b.val), ← sub_mul, c_P p R, hk, if_neg Bool.false_ne_true,
      p.callE_gap A.absGt_ne (A.gap a b hk)]
  · simp only [↓reduceIte, sub_self, mul_zero, zero_mul]

include R A in
theorem eqHt : sr p "H_tilde" = p.H0s + p.SelS (sr p "H'_diag" + sr p "B" + sr p "U_inv'" * sr p "B") := by
  rw [sr_prod p R nprod_GB, ← C_coeff_zero A.H0_spec]
  ext m a b
  rw [coeff_add_apply, coeff_SelS, c_Ht p R, coeff_add_apply, coeff_add_apply]

include R A in
theorem Ht_sel : p.SelS (sr p "H_tilde") = sr p "H_tilde" :=
  Ser_input_sel R.runs A.H0_spec nfind_Ht A.diag_kept

noncomputable def hypN : TheoremN.Hyp (Sr (Fin p.nparams) K p.d) where
  two_cancel := two_cancel_series h2
  Sel := p.SelS
  SS := p.SelS_idem
  H0 := p.H0s
  Hd := sr p "H'_diag"
  Ho := sr p "H'_offdiag"
  P := sr p "U'"
  G := sr p "U_inv'"
  X := sr p "X"
  B := sr p "B"
  Ht := sr p "H_tilde"
  H0sel := p.H0s_sel A.diag_kept
  H0comm := p.H0comm
  Hdsel := Ser_diag_sel R.runs nfind_Hd
  Hosel := Ser_offdiag_sel R.runs nfind_Ho
  -- `(e :)` as in `fillHyp` (MainSeries)
  eqPsel := (eqPsel p R h2 :)
  eqPrem := (eqPrem p R A :)
  eqG := (eqG p R :)
  eqXrem := (eqXrem p R :)
  eqXsel := (eqXsel p R :)
  eqB := (eqB p R :)
  eqHt := (eqHt p R A :)
  comm := (H0s_comm_SelS p A (sr p "U'") :)

include R A h2 in
/-- **C05 (model, partial)**: `U_inv · H · U = H̃` to all orders -/
theorem C05_main : sr p "U†" * sr p "H" * sr p "U" = sr p "H_tilde" := by
  rw [sr_U p R, sr_Ud p R, sr_H p R A]
  exact TheoremN.main_identity (hypN p R A h2)

include R A h2 in
/-- `U_inv · U = 1` -/
theorem C05_left_inverse : sr p "U†" * sr p "U" = 1 := by
  rw [sr_U p R, sr_Ud p R]
  exact TheoremN.inverse (hypN p R A h2)

include R A h2 in
/-- `U · U_inv = 1`: the left inverse of a series `1 + (order ≥ 1)` is its right inverse -/
theorem C05_right_inverse : sr p "U" * sr p "U†" = 1 := by
  have hl := C05_left_inverse p R A h2
  rw [sr_U p R, sr_Ud p R] at hl ⊢
  exact p.filt.mul_eq_one_comm (F1_G p R) hl

include R A h2 in
/-- gauge: `U − U_inv` has no kept entry -/
theorem C05_gauge (m : Fin p.nparams →₀ ℕ) (a b : Fin p.d) (hk : p.keptE a.val b.val = true) :
    coeff m (sr p "U" - sr p "U†") a b = 0 := by
  rw [sr_U p R, sr_Ud p R, add_sub_add_left_eq_sub]
  exact p.SelS_eq_zero_iff.mp (TheoremN.gauge (hypN p R A h2)) m a b hk

end Nh
end Problem
end BlockDiag
end Pyma

#print axioms Pyma.BlockDiag.Problem.Nh.C05_main
#print axioms Pyma.BlockDiag.Problem.Nh.C05_right_inverse
