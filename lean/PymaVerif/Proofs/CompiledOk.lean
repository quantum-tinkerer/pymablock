/-
The bodies pymablock's compiler produces for the shipped algorithms are exactly those of the
reference compiler applied to the translated source (re-checked by kernel evaluation on every run).
-/
import PymaVerif.Model.Generated.Compiled
import PymaVerif.Model.Generated.Algorithms

namespace Pyma
namespace Dsl
open Generated

theorem compiled_main_ok : compileProg main = compiled_main := by rfl
theorem compiled_nonhermitian_ok : compileProg nonhermitian = compiled_nonhermitian := by rfl

end Dsl
end Pyma
