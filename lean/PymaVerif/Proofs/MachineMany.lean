/-
Requests for several elements (`series[item]` with lists and slices).  The loop `getMany` returns the denotations of its elements; the same
loop as a script (`manyScript`) never pops, so "exactly once" applies to it: no element is evaluated twice even when the elements of one
request depend on each other (an element evaluated re-entrantly by an earlier one is found cached when its turn comes).
-/
import PymaVerif.Proofs.MachineOnce

namespace Pyma
namespace Machine

variable {V : Type}

theorem getMany_sound {S : Sys V} {den : SId → Idx → V} (hc : Consistent S den) (f : Nat) (s : SId) :
    ∀ (idxs : List Idx) (w : World V), Inv den w →
      Inv den (getMany S f s idxs w).2 ∧ ∀ vs, (getMany S f s idxs w).1 = .ok vs → vs = idxs.map (den s)
  | [], w, hw => ⟨hw, fun vs h => (Except.ok.inj h).symm⟩
  | i :: rest, w, hw => by
    have hg := getItem_sound hc f s i hw
    rw [getMany]
    generalize getItem S f s i w = r at hg ⊢
    obtain ⟨e | v, w'⟩ := r
    · exact ⟨hg.1, nofun⟩
    · have ih := getMany_sound hc f s rest w' hg.1
      cases hg.2 v rfl
      dsimp only
      generalize getMany S f s rest w' = r' at ih ⊢
      obtain ⟨e | vs, w''⟩ := r'
      · exact ⟨ih.1, nofun⟩
      · exact ⟨ih.1, fun vs' h => by cases h; rw [ih.2 vs rfl, List.map_cons]⟩

theorem manyScript_noPop (s : SId) : ∀ (idxs : List Idx) (v : V), NoPop (manyScript s idxs v)
  | [], v => .pure v
  | i :: rest, _ => .get s i _ fun v => manyScript_noPop s rest v

theorem request_log_nodup {S : Sys V} (hdefs : ∀ s i, NoPop (S.defs s i)) {f : Nat} {s : SId} {idxs : List Idx} {v0 v : V}
    (h : (run S f (manyScript s idxs v0) ⟨[], 0, []⟩).1 = .ok v) : (run S f (manyScript s idxs v0) ⟨[], 0, []⟩).2.log.Nodup :=
  log_nodup S hdefs f _ (manyScript_noPop s idxs v0) v h

end Machine
end Pyma
