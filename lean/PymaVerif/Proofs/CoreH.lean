/-
Theorem H: the recurrences of `main`, read in a filtered *-ring, imply unitarity and U†HU = H̃.
`CoreFill`, the lower-triangle fill of `W`: if the diagonal and upper blocks of `W` are those of `-½ Q P` and
the lower blocks are filled by adjoints, then `W` is Hermitian and `2 W = -(Q P)` everywhere (`Q = W - V`,
`P = W + V`, `V` anti-Hermitian).  No induction on the order: one contraction.
`TheoremH`: with `U = 1 + P`, `U† = 1 + Q`, the recurrences for `B` say that `R = U† B` is kept and Hermitian
(`selR`, `starR`).  Since `X = B + Ho U`, conjugating gives `U† H U = HS − R + U† (X − [U, HS])` (`G_eq_add`),
all of whose other terms are Hermitian, so the last one is (`X_sub_comm_hermitian`).  With `2 Y = X† + X` the
difference `X − [U, HS]` is also anti-Hermitian, and vanishes (`X_eq_comm`, one contraction): the transformed
Hamiltonian is `HS − R`, which the recurrence for `H̃` spells out.  `Base` holds everything
except the two equations that the two-block optimisation replaces (`eqW`, `eqY`); `Hyp` adds them.
-/
import PymaVerif.Proofs.Filtered

namespace Pyma

namespace CoreFill

variable {S : Type*} [Ring S] [StarRing S]

theorem map_two (f : S →+ S) (x : S) : f (2 * x) = 2 * f x := by
  rw [two_mul, two_mul, map_add]

/-- `D` is the diagonal-block part here and the even part in the two-block case (`CoreH2`) -/
theorem star_eq_of_diag (Φ : Filtration S) (two_mem : ∀ k (x : S), 2 * x ∈ Φ.F k → x ∈ Φ.F k)
    (star_mem : ∀ k (x : S), x ∈ Φ.F k → star x ∈ Φ.F k) (D : S →+ S)
    (D_mem : ∀ k (x : S), x ∈ Φ.F k → D x ∈ Φ.F k) (star_D : ∀ x, star (D x) = D (star x))
    {W V : S} (hW : W ∈ Φ.F 1) (hV : V ∈ Φ.F 1) (Vstar : star V = -V)
    (hE : D (W - star W) = W - star W) (eq : 2 * D W = -D ((W - V) * (W + V))) : star W = W := by
  have e : 2 * D (star W) = -D ((star W - V) * (star W + V)) := by
    rw [← star_D, ← star_two_mul, eq, star_neg, star_D, star_mul, star_sub, star_add, Vstar,
      sub_neg_eq_add, ← sub_eq_add_neg]
  have key : 2 * (W - star W) = -D ((star W - V) * (W - star W) + (W - star W) * (W + V)) := by
    calc 2 * (W - star W) = 2 * D W - 2 * D (star W) := by rw [← mul_sub, ← map_sub, hE]
      _ = -D ((W - V) * (W + V) - (star W - V) * (star W + V)) := by rw [eq, e, map_sub]; abel
      _ = _ := by rw [mul_sub_mul, sub_sub_sub_cancel_right, add_sub_add_right_eq_sub, add_comm]
  exact (sub_eq_zero.mp (Φ.eq_zero_of_two_mul two_mem D D_mem (sub_mem (star_mem _ _ hW) hV) (add_mem hW hV) key)).symm

structure Hyp (S : Type*) [Ring S] [StarRing S] where
  Φ : Filtration S
  two_mem : ∀ k (x : S), 2 * x ∈ Φ.F k → x ∈ Φ.F k
  star_mem : ∀ k (x : S), x ∈ Φ.F k → star x ∈ Φ.F k
  Dg : S →+ S
  Up : S →+ S
  Lo : S →+ S
  split : ∀ x, Dg x + Up x + Lo x = x
  Dg_mem : ∀ k (x : S), x ∈ Φ.F k → Dg x ∈ Φ.F k
  star_Dg : ∀ x, star (Dg x) = Dg (star x)
  star_Up : ∀ x, star (Up x) = Lo (star x)
  star_Lo : ∀ x, star (Lo x) = Up (star x)
  W : S
  V : S
  Wmem : W ∈ Φ.F 1
  Vmem : V ∈ Φ.F 1
  Vstar : star V = -V
  eqDg : 2 * Dg W = -Dg ((W - V) * (W + V))
  eqUp : 2 * Up W = -Up ((W - V) * (W + V))
  fill : Lo W = star (Up W)

variable (h : Hyp S)

local notation "QP" => ((Hyp.W h - Hyp.V h) * (Hyp.W h + Hyp.V h))

theorem W_hermitian : star h.W = h.W := by
  -- by the fill `W - W†` has no upper and no lower part
  have hE : h.Dg (h.W - star h.W) = h.W - star h.W := by
    have := h.split (h.W - star h.W)
    rwa [map_sub h.Up, ← h.star_Lo, map_sub h.Lo, ← h.star_Up, h.fill, star_star, sub_self, sub_self, add_zero,
      add_zero] at this
  exact star_eq_of_diag h.Φ h.two_mem h.star_mem h.Dg h.Dg_mem h.star_Dg h.Wmem h.Vmem h.Vstar hE h.eqDg

theorem QP_hermitian : star QP = QP := by
  rw [star_mul, star_add, star_sub, W_hermitian, h.Vstar, sub_neg_eq_add, ← sub_eq_add_neg]

theorem eqW : 2 * h.W = -QP := by
  have hLo : 2 * h.Lo h.W = -h.Lo QP := by
    rw [h.fill, ← star_two_mul, h.eqUp, star_neg, h.star_Up, QP_hermitian]
  calc 2 * h.W = 2 * (h.Dg h.W + h.Up h.W + h.Lo h.W) := by rw [h.split]
    _ = 2 * h.Dg h.W + 2 * h.Up h.W + 2 * h.Lo h.W := by rw [mul_add, mul_add]
    _ = -(h.Dg QP + h.Up QP + h.Lo QP) := by rw [h.eqDg, h.eqUp, hLo]; abel
    _ = -QP := by rw [h.split]

end CoreFill

namespace TheoremH
variable {S : Type*} [Ring S] [StarRing S]

structure Base (S : Type*) [Ring S] [StarRing S] where
  Φ : Filtration S
  two_cancel : ∀ x y : S, 2 * x = 2 * y → x = y
  two_mem : ∀ k (x : S), 2 * x ∈ Φ.F k → x ∈ Φ.F k
  Sel : S →+ S
  Sstar : ∀ x, star (Sel x) = Sel (star x)
  H0 : S
  Hd : S
  Ho : S
  W : S
  V : S
  X : S
  B : S
  Y : S
  Ht : S
  H0star : star H0 = H0
  H0sel : Sel H0 = H0
  Hdstar : star Hd = Hd
  Hdsel : Sel Hd = Hd
  Hostar : star Ho = Ho
  Hosel : Sel Ho = 0
  Wstar : star W = W
  Vstar : star V = -V
  Wmem : W ∈ Φ.F 1
  Vmem : V ∈ Φ.F 1
  -- the recurrences (doubled where the code divides by ±2)
  eqX : X = B + Ho + Ho * (W + V)
  eqBsel : 2 * Sel B = Sel (-((W - V) * B - star ((W - V) * B) + Ho * (W + V) + star (Ho * (W + V)))
              + 2 * (V * Hd + star (V * Hd)))
  eqBrem : B - Sel B = (-((W - V) * B)) - Sel (-((W - V) * B))
  eqV : H0 * V - V * H0 = -((star Y - V * Hd - star (V * Hd)) - Sel (star Y - V * Hd - star (V * Hd)))
  eqHt : 2 * Ht = 2 * H0 + Sel (2 * Hd + (Ho * (W + V) + star (Ho * (W + V)))
              - ((W - V) * B + star ((W - V) * B)) - 2 * Y)

structure Hyp (S : Type*) [Ring S] [StarRing S] extends Base S where
  eqW : 2 * W = -((W - V) * (W + V))
  eqY : 2 * Y = star X + X

section base
variable (h : Base S)

local notation "P" => (Base.W h + Base.V h)
local notation "Q" => (Base.W h - Base.V h)
local notation "HS" => (Base.H0 h + Base.Hd h)
local notation "C" => (Base.V h * Base.Hd h + star (Base.V h * Base.Hd h))
local notation "K" => (Q * Base.B h - Base.Ho h * P)
local notation "R" => (Base.B h + Q * Base.B h)
local notation "Xs" => (P * HS - HS * P)
local notation "G" => ((1 + Q) * (HS + Base.Ho h) * (1 + P))

theorem C_eq : C = h.V * h.Hd - h.Hd * h.V := by
  rw [star_mul, h.Hdstar, h.Vstar, mul_neg, sub_eq_add_neg]

theorem starC : star C = C := by
  rw [star_add, star_star, add_comm]

theorem starHS : star HS = HS := by rw [star_add, h.H0star, h.Hdstar]

theorem selHS : h.Sel HS = HS := by rw [map_add, h.H0sel, h.Hdsel]

theorem starP : star P = Q := by
  rw [star_add, h.Wstar, h.Vstar, sub_eq_add_neg]

theorem starQ : star Q = P := by
  rw [star_sub, h.Wstar, h.Vstar, sub_neg_eq_add]

theorem Pmem : P ∈ h.Φ.F 1 := add_mem h.Wmem h.Vmem

theorem Qmem : Q ∈ h.Φ.F 1 := sub_mem h.Wmem h.Vmem

theorem selR : h.Sel R = R := map_add_eq_self h.eqBrem

theorem twoR : 2 * R = h.Sel K + h.Sel (star K) + 2 * h.Sel C := by
  conv_lhs => rw [← selR, map_add, mul_add, h.eqBsel, two_mul (h.Sel (Q * h.B))]
  simp only [map_add, map_neg, map_sub, star_sub, CoreFill.map_two]; abel

theorem starR : star R = R := by
  apply h.two_cancel
  rw [← star_two_mul, twoR, star_add, star_add, star_two_mul, h.Sstar, h.Sstar, h.Sstar, star_star, starC,
    add_comm (h.Sel (star K))]

theorem selX_herm : h.Sel h.X + h.Sel (star h.X) = 2 * h.Sel C := by
  have e : h.Sel h.X = R - h.Sel K := by
    rw [h.eqX, ← selR]; simp only [map_add, map_sub, h.Hosel]; abel
  have e' := congrArg star e
  rw [star_sub, starR, h.Sstar, h.Sstar] at e'
  have := twoR h
  rw [two_mul] at this
  calc h.Sel h.X + h.Sel (star h.X) = R + R - (h.Sel K + h.Sel (star K)) := by rw [e, e']; abel
    _ = _ := by rw [this]; abel

theorem starU : star (1 + Q) = 1 + P := by rw [star_add, star_one, starQ]

theorem starG : star G = G := by
  have e : star (1 + P) = 1 + Q := by rw [star_add, star_one, starP]
  rw [star_mul, star_mul, e, starU, star_add HS, starHS, h.Hostar, mul_assoc]

theorem Xs_herm : Xs + star Xs = 2 * (h.V * HS - HS * h.V) := by
  rw [star_sub, star_mul, star_mul, starHS, starP]
  simp only [add_mul, mul_add, sub_mul, mul_sub, two_mul]; abel

theorem Y_comm_of (hY : star h.Y = h.Y) (hS : h.Sel h.Y = h.Sel C) : h.Y = h.V * HS - HS * h.V := by
  have e := h.eqV
  rw [hY, sub_sub h.Y, map_sub, hS, sub_self, sub_zero, C_eq] at e
  calc h.Y = (h.V * h.Hd - h.Hd * h.V) - (h.H0 * h.V - h.V * h.H0) := by rw [e]; abel
    _ = _ := by rw [mul_add, add_mul]; abel

theorem G_eq_add (hu : (1 + Q) * (1 + P) = 1) : G = HS - R + (1 + Q) * (h.X - Xs) := by
  have e : (1 + Q) * h.X = R + (1 + Q) * h.Ho * (1 + P) := by
    conv_lhs => rw [h.eqX]
    rw [add_assoc, mul_add, add_mul 1, one_mul, mul_assoc, mul_add h.Ho 1, mul_one]
  rw [mul_add (1 + Q) HS, add_mul, conj_eq hu, mul_sub _ h.X, e, ← neg_sub (P * HS), mul_neg]; abel

theorem X_sub_comm_hermitian (hu : (1 + Q) * (1 + P) = 1) :
    (1 + Q) * (h.X - Xs) = star (h.X - Xs) * (1 + P) := by
  have e : (1 + Q) * (h.X - Xs) = G - (HS - R) := by rw [G_eq_add h hu]; abel
  have := congrArg star e
  rwa [star_sub, star_sub, starG, starHS, starR, ← e, star_mul, starU, eq_comm] at this

/-! From here on the two equations that `Hyp` adds are hypotheses, `(1 + Q)(1 + P) = 1` standing for the equation
of `W`.  What stands above is what `CoreH2` uses to derive them from the optimised recurrences. -/

section
variable (hu : (1 + (h.W - h.V)) * (1 + (h.W + h.V)) = 1) (hY : 2 * h.Y = star h.X + h.X)
include hY

theorem SelY : h.Sel h.Y = h.Sel C := by
  apply h.two_cancel
  rw [← CoreFill.map_two, hY, map_add, add_comm, selX_herm]

theorem Y_comm : h.Y = h.V * HS - HS * h.V := by
  refine Y_comm_of h (h.two_cancel _ _ ?_) (SelY h hY)
  rw [← star_two_mul, hY, star_add, star_star, add_comm]

include hu

theorem X_eq_comm : h.X = Xs := by
  have hΔ : star (h.X - Xs) = -(h.X - Xs) := by
    apply eq_neg_of_add_eq_zero_right
    rw [star_sub, sub_add_sub_comm, add_comm h.X, ← hY, Xs_herm, ← Y_comm h hY, sub_self]
  have e := X_sub_comm_hermitian h hu
  rw [hΔ, neg_mul, ← add_eq_zero_iff_eq_neg] at e
  exact sub_eq_zero.mp (h.Φ.eq_zero_of_sylvester h.two_mem (Qmem h) (Pmem h) e)

theorem G_eq : G = HS - R := by
  rw [G_eq_add h hu, ← X_eq_comm h hu hY, sub_self, mul_zero, add_zero]

theorem eliminated_zero_of : G - h.Sel G = 0 := by
  rw [G_eq h hu hY, map_sub, selHS, selR, sub_self]

theorem main_identity_of : G = h.Ht := by
  apply h.two_cancel
  rw [G_eq h hu hY, mul_sub, twoR, h.eqHt]
  simp only [map_add, map_sub, CoreFill.map_two, h.Hdsel, SelY h hY, star_sub]
  rw [mul_add]; abel

end

end base

section full
variable (h : Hyp S)

local notation "P" => (Base.W (Hyp.toBase h) + Base.V (Hyp.toBase h))
local notation "Q" => (Base.W (Hyp.toBase h) - Base.V (Hyp.toBase h))
local notation "G" => ((1 + Q) * (Base.H0 (Hyp.toBase h) + Base.Hd (Hyp.toBase h) + Base.Ho (Hyp.toBase h)) * (1 + P))

theorem unitary : (1 + Q) * (1 + P) = 1 := one_add_mul_one_add h.eqW

theorem eliminated_zero : G - h.Sel G = 0 := eliminated_zero_of h.toBase (unitary h) h.eqY

theorem main_identity : G = h.Ht := main_identity_of h.toBase (unitary h) h.eqY

theorem kept_eq : h.Sel G = h.Ht := by
  rw [← sub_eq_zero.mp (eliminated_zero h)]; exact main_identity h

theorem unitary' : (1 + P) * (1 + Q) = 1 := h.Φ.mul_eq_one_comm (Qmem h.toBase) (unitary h)

end full

end TheoremH

end Pyma
#print axioms Pyma.CoreFill.eqW
#print axioms Pyma.TheoremH.main_identity
