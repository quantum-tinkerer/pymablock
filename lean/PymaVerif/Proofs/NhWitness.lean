/-
Non-vacuity of the C05 hypotheses: concrete non-Hermitian problems over ℚ that are `AcceptedN`.
-/
import PymaVerif.Proofs.NhAccepted
import PymaVerif.Proofs.Witness

namespace Pyma
namespace BlockDiag
namespace Problem

theorem n2_accepted : n2.AcceptedN where
  wf := by decide
  blocks_lt := by decide
  atol_nonneg := by decide +kernel
  h0_diag := by decide
  diag_kept := by decide +kernel
  gap := by decide +kernel
  no_shared := by decide +kernel
  kept_deg := by decide +kernel

example : n1.keptE 1 0 = true ∧ n1.keptE 0 1 = false := by decide +kernel

example : Nh.sr n2 "U†" * Nh.sr n2 "H" * Nh.sr n2 "U" = Nh.sr n2 "H_tilde" :=
  (C05_partial n2_accepted (by norm_num)).2.2.1

end Problem
end BlockDiag
end Pyma
