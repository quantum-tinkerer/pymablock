/-
C15 (complex conjugation), as an instance of ring-level naturality: if the Hamiltonian terms of a
second problem of the same shape are the entrywise conjugates of those of the first, every element of
every series of `main` is the entrywise conjugate.
-/
import PymaVerif.Proofs.ProblemSupp

namespace Pyma
namespace BlockDiag
open Dsl Generated
namespace Problem

variable {K : Type} [Field K] [StarRing K] [DecidableEq K] [Thresholds K]
attribute [local instance] Scalar.ofField
variable (p : Problem K) (ts : List (List Nat × Mat K))

def conjM : MatK K p.blocks →+ MatK K (p.withTerms ts).blocks where
  toFun X := fun a b => star (X a b)
  map_zero' := by funext a b; simp
  map_add' X Y := by
    funext a b
    show star ((X + Y) a b) = star (X a b) + star (Y a b)
    rw [Matrix.add_apply, star_add]

theorem conjM_apply (X : MatK K p.blocks) (a b : Fin p.d) : p.conjM ts X a b = star (X a b) := rfl

omit [DecidableEq K] [Thresholds K] in
theorem star_indicator {c : Prop} [Decidable c] : star (if c then (1 : K) else 0) = if c then 1 else 0 := by
  split
  · exact star_one K
  · exact star_zero K

/-- **C15 (conjugation)**: conjugating the input conjugates every element of every series -/
theorem C15_conjugation (hwf : p.WF) (hwf' : (p.withTerms ts).WF)
    (hns : p.NoShared) (hns' : (p.withTerms ts).NoShared)
    (hen : ∀ a : Nat, (p.withTerms ts).energy a = p.energy a)
    (hreal : ∀ a : Nat, star (p.energy a) = p.energy a)
    (habs : ∀ (x : K) (t : Rat), Thresholds.absGt (star x) t = Thresholds.absGt x t)
    (hin : ∀ idx, sem (p.withTerms ts).blocks idx ((p.withTerms ts).inputH idx)
      = p.conjM ts (sem p.blocks idx (p.inputH idx)))
    (x : String) (hx : x ∈ mainNames) (idx : Idx) :
    mat (p.withTerms ts).blocks main (p.withTerms ts).env x idx
      = p.conjM ts (mat p.blocks main p.env x idx) := by
  -- conjugation commutes with the entrywise product by every real table
  refine p.natural_withTerms ts hen (p.conjM ts) ?_ ?_ ?_ (fun κ => ∀ a b, star (κ a b) = κ a b) ?_ ?_ ?_ hin ?_ ?_
    hwf hwf' hns hns' x hx idx
  -- `conjM` is `Matrix.map` of the ring homomorphism `star`
  · exact fun X Y => Matrix.map_mul (f := starRingEnd K)
  · exact fun X => Matrix.conjTranspose_map star fun _ => rfl
  · intro k X
    funext a b
    show star ((((k : K)⁻¹) • X) a b) = (((k : K)⁻¹) • p.conjM ts X) a b
    rw [Matrix.smul_apply, Matrix.smul_apply, conjM_apply, smul_eq_mul, smul_eq_mul, star_mul', star_inv₀, star_intCast]
  · intro κ hκ X
    funext a b
    show star (X a b * κ a b) = star (X a b) * κ a b
    rw [star_mul', hκ]
  · intro idx a b
    simp only [solveK]
    split
    · split
      · rw [star_inv₀, star_sub, hreal, hreal]
      · exact star_zero K
    · exact star_zero K
  · exact fun f a b => star_indicator
  · funext a b
    show star ((1 : MatK K p.blocks) a b) = (1 : MatK K p.blocks) a b
    rw [Matrix.one_apply]
    exact star_indicator
  · exact fun i a _ => star_indicator

end Problem
end BlockDiag
end Pyma
#print axioms Pyma.BlockDiag.Problem.C15_conjugation
