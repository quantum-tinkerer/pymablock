/-
The two translated programs pass the totality certificate, and the environment built by
`block_diagonalize` is total whenever the Sylvester solver does not raise; hence every element of
every series of `main` and of `nonhermitian` has a derivation (`Problem.total_main`, `total_nh`),
which discharges `Ready.tot` and `Nh.Ready.tot`.
-/
import PymaVerif.Proofs.Total
import PymaVerif.Proofs.MainKinds

namespace Pyma
namespace Dsl
open Generated

def mainProducts : List String :=
  ["U'† @ U'", "H'_diag @ U'", "H'_offdiag @ U'", "U'† @ B", "V @ H'_diag"]

def mainCert : Cert where
  names := BlockDiag.Problem.mainNames
  inputs := ["H"]
  fns := ["solve_sylvester"]
  rank0 := fun x =>
    if x == "U'†" || x == "U" then 1
    else if x == "U†" || mainProducts.contains x then 2 else 0
  rankT := fun x =>
    if x == "H" then 0
    else if x == "H'_diag" || x == "H'_offdiag" then 1
    else if mainProducts.contains x then 2
    else if x == "W" || x == "B" then 3
    else if x == "X" then 4
    else if x == "Yadj" then 5
    else if x == "V" || x == "H_tilde" then 6
    else if x == "U'" || x == "U'†" then 7
    else 8
  z0 := fun x => ["H'_diag", "H'_offdiag", "V", "W", "Yadj", "U'", "X", "B", "U'†"].contains x
  one := fun x => x == "U" || x == "U†"

theorem mainCert_ok : mainCert.ok main = true := by decide +kernel

def nhCert : Cert where
  names := nhNames
  inputs := ["H"]
  fns := ["solve_sylvester"]
  rank0 := fun x => if x == "U" || x == "U†" || nhProducts.contains x then 1 else 0
  rankT := fun x =>
    if x == "H" then 0
    else if x == "H'_diag" || x == "H'_offdiag" then 1
    else if nhProducts.contains x then 2
    else if x == "X" then 3
    else if x == "B" then 4
    else if x == "U'" || x == "H_tilde" then 5
    else if x == "U_inv'" then 6
    else 7
  z0 := fun x => ["H'_diag", "H'_offdiag", "U'", "U_inv'", "X", "B"].contains x
  one := fun x => x == "U" || x == "U†"

theorem nhCert_ok : nhCert.ok nonhermitian = true := by decide +kernel

end Dsl

namespace BlockDiag
open Dsl Generated
namespace Problem

variable {K : Type} [Scalar K] (p : Problem K)

/-- the Sylvester solver's "subspaces must not share eigenvalues" check never fires -/
def NoShared : Prop := ∀ i j : Nat, (i != j && (List.range p.d).any fun a => (List.range p.d).any fun b =>
    p.inBlock i j a b && Scalar.isClose (p.energy a) (p.energy b)) = false

theorem maskVal_ne_one {keep : Nat → Nat → Bool} {v : SVal K} {idx : Idx} : p.maskVal keep v idx ≠ .one := by
  cases v <;> simp [maskVal]

theorem envTot {c : Cert} (h : p.NoShared) (hin : c.inputs = ["H"] := by rfl)
    (hfn : c.fns = ["solve_sylvester"] := by rfl) : EnvTot c p.env where
  inputs := hin.symm
  input_ne := by
    intro _ idx
    show p.inputH idx ≠ .one
    unfold inputH
    split
    · simp
    · simp only; split <;> simp
  fn_tot := by
    intro f hf v idx hv
    have hf' : f = "solve_sylvester" := by simpa [hfn] using hf
    subst hf'
    show ∃ w, p.solveSylvester (.inr v) idx = .ok w ∧ w ≠ .one
    cases v with
    | zero => exact ⟨.zero, rfl, by simp⟩
    | one => exact absurd rfl hv
    | val y =>
      simp only [solveSylvester, h idx.i idx.j]
      exact ⟨_, rfl, by simp⟩
  diag_ne := by
    intro v idx hv
    show p.diagW v idx ≠ .one
    unfold diagW
    split
    · exact p.maskVal_ne_one
    · exact hv
  offdiag_ne := by
    intro od hod v idx _
    obtain rfl := offdiag_eq hod
    unfold offdiagW
    split
    · exact p.maskVal_ne_one
    · simp

theorem total_main (h : p.NoShared) (x : String) (hx : x ∈ mainNames) (idx : Idx) :
    ∃ v, Den main p.env x idx v := by
  obtain ⟨v, hv, _⟩ := Dsl.total mainCert_ok (p.envTot h) (deg idx.n) x hx idx rfl
  exact ⟨v, hv⟩

theorem total_nh (h : p.NoShared) (x : String) (hx : x ∈ nhNames) (idx : Idx) :
    ∃ v, Den nonhermitian p.env x idx v := by
  obtain ⟨v, hv, _⟩ := Dsl.total nhCert_ok (p.envTot h) (deg idx.n) x hx idx rfl
  exact ⟨v, hv⟩

end Problem
end BlockDiag
end Pyma
