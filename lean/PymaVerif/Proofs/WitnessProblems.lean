/-
The concrete problems over ℚ on which the hypotheses of the theorems are shown to be satisfiable and on which the evaluators are run, with what makes ℚ a
scalar field of the model (`Thresholds ℚ` here, `StarRing ℚ` from Mathlib).  Definitions only, on top of the model and `MatBridge` alone: the kernel
evaluations about these problems (`CompiledRun`, `D5Witness`) need not wait for the main chain, which only `Witness` needs, to show them `Accepted`.
-/
import PymaVerif.Model.BlockDiag
import PymaVerif.Proofs.MatBridge

namespace Pyma
namespace BlockDiag
namespace Problem

instance : Thresholds ℚ where
  absGt := fun x t => decide (t < x) || decide (t < -x)
  absLt := fun x t => decide (x < t) && decide (-x < t)
  isClose := fun x y => decide (x = y)

def w3 : Problem ℚ where
  d := 3
  blockOf := #[0, 1, 2]
  nblocks := 3
  nparams := 1
  terms := [([0], ⟨3, #[0,0,0, 0,1,0, 0,0,3]⟩), ([1], ⟨3, #[1,2,0, 2,0,5, 0,5,-1]⟩)]
  hermitian := true
  fd := .none
  atol := 1/1000

/-- one block, fully diagonalised (the single-block default) -/
def w1 : Problem ℚ where
  d := 2
  blockOf := #[0, 0]
  nblocks := 1
  nparams := 2
  terms := [([0,0], ⟨2, #[1,0, 0,-1]⟩), ([1,0], ⟨2, #[0,1, 1,0]⟩), ([0,1], ⟨2, #[2,3, 3,0]⟩)]
  hermitian := true
  fd := .none
  atol := 1/1000

/-- two blocks, a mask on the first one only (so the second is a commuting block) -/
def wd : Problem ℚ where
  d := 4
  blockOf := #[0, 0, 1, 1]
  nblocks := 2
  nparams := 1
  terms := [([0], ⟨4, #[0,0,0,0, 0,2,0,0, 0,0,5,0, 0,0,0,5]⟩),
            ([1], ⟨4, #[1,2,3,0, 2,0,1,1, 3,1,0,4, 0,1,4,2]⟩)]
  hermitian := true
  fd := .dict [(0, #[false,true,false,false, true,false,false,false,
                     false,false,false,false, false,false,false,false])]
  atol := 1/1000

/-- the default two-block call (the optimised flags are on) -/
def w2 : Problem ℚ where
  d := 3
  blockOf := #[0, 0, 1]
  nblocks := 2
  nparams := 1
  terms := [([0], ⟨3, #[1,0,0, 0,1,0, 0,0,4]⟩), ([1], ⟨3, #[1,2,3, 2,0,1, 3,1,-2]⟩)]
  hermitian := true
  fd := .none
  atol := 1/1000

/-- a single block, fully diagonalised by default, whose lowest three levels are equal within `atol = 10` only through their neighbours
(0, 7, 14; the fourth level is 300): the regime of D37 -/
def wchain : Problem ℚ where
  d := 4
  blockOf := #[0, 0, 0, 0]
  nblocks := 1
  nparams := 1
  terms := [([0], ⟨4, #[0,0,0,0, 0,7,0,0, 0,0,14,0, 0,0,0,300]⟩),
            ([1], ⟨4, #[1,2,3,1, 2,0,1,1, 3,1,0,4, 1,1,4,2]⟩)]
  hermitian := true
  fd := .none
  atol := 10

/-- two blocks, `fully_diagonalize=[0]`: only the first block is fully diagonalised; its two levels are exactly `atol` apart (kept: D38) -/
def wlist : Problem ℚ where
  d := 3
  blockOf := #[0, 0, 1]
  nblocks := 2
  nparams := 1
  terms := [([0], ⟨3, #[1,0,0, 0,11,0, 0,0,400]⟩), ([1], ⟨3, #[1,2,3, 2,0,1, 3,1,-2]⟩)]
  hermitian := true
  fd := .tuple [0]
  atol := 10

/-- the same with every block named: `fully_diagonalize=[0, 1]` -/
def wall : Problem ℚ := { wlist with fd := .tuple [0, 1] }

/-- two blocks, degenerate first block, non-symmetric perturbation -/
def n2 : Problem ℚ where
  d := 3
  blockOf := #[0, 0, 1]
  nblocks := 2
  nparams := 1
  terms := [([0], ⟨3, #[1,0,0, 0,1,0, 0,0,4]⟩), ([1], ⟨3, #[1,2,3, 0,-1,1, 5,1,-2]⟩)]
  hermitian := false
  fd := .none
  atol := 1/1000

/-- one block with an asymmetric eliminate-mask: only the entry (0,1) is eliminated -/
def n1 : Problem ℚ where
  d := 2
  blockOf := #[0, 0]
  nblocks := 1
  nparams := 1
  terms := [([0], ⟨2, #[0,0, 0,3]⟩), ([1], ⟨2, #[1,2, 5,-1]⟩)]
  hermitian := false
  fd := .dict [(0, #[false, true, false, false])]
  atol := 1/1000

/-- two coupled one-dimensional blocks with the same unperturbed energy -/
def wShared : Problem ℚ where
  d := 2
  blockOf := #[0, 1]
  nblocks := 2
  nparams := 1
  terms := [([0], ⟨2, #[1,0, 0,1]⟩), ([1], ⟨2, #[0,1, 1,0]⟩)]
  hermitian := true
  fd := .none
  atol := 1/1000

end Problem
end BlockDiag
end Pyma
