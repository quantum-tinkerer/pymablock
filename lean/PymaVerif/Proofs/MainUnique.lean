/-
C03 for the model: the computed `U' = U - 1` solves the defining equations of the least-action
(Schrieffer–Wolff) transformation — unitarity, elimination, and the gauge "the anti-Hermitian part
has no kept entry" — and it is the only series that does.
-/
import PymaVerif.Proofs.Accepted
import PymaVerif.Proofs.CoreU

namespace Pyma

theorem TheoremH.Hyp.sol {S : Type*} [Ring S] [StarRing S] (h : TheoremH.Hyp S) (c : TheoremU.Ctx S)
    (hΦ : c.Φ = h.Φ) (hSel : c.Sel = h.Sel) (hH0 : c.H0 = h.H0) (hH' : c.H' = h.Hd + h.Ho)
    (hV : h.Sel h.V = 0) : TheoremU.Sol c (h.W + h.V) := by
  have hstar : star (h.W + h.V) = h.W - h.V := TheoremH.starP h.toBase
  refine ⟨?_, ?_, ?_, ?_⟩
  · rw [hΦ]; exact add_mem h.Wmem h.Vmem
  · rw [hstar]; exact TheoremH.unitary h
  · rw [hstar, hSel]
    have : h.W + h.V - (h.W - h.V) = h.V + h.V := by abel
    rw [this, map_add, hV, add_zero]
  · rw [hstar, hSel, hH0, hH']
    have e : h.H0 + (h.Hd + h.Ho) = h.H0 + h.Hd + h.Ho := by abel
    rw [e]
    exact TheoremH.eliminated_zero h

namespace BlockDiag
open MvPowerSeries
namespace Problem

variable {K : Type} [Field K] [StarRing K] [DecidableEq K] [Thresholds K]
attribute [local instance] Scalar.ofField
variable (p : Problem K) (R : p.Ready) (Y : p.Sym) (A : p.Acc) (h2 : (2 : K) ≠ 0)

noncomputable def ctx : TheoremU.Ctx (Sr (Fin p.nparams) K p.d) where
  Φ := p.filt
  two_mem := two_mem_series h2
  star_mem := p.star_mem_F
  Sel := p.SelS
  Sel_mem := fun k x hx => coeffwise_mem _ k x hx
  H0 := p.H0s
  H' := p.sr "H'_diag" + p.sr "H'_offdiag"
  H'mem := AddSubgroup.add_mem _ (p.F1_Hd R) (p.F1_Ho R)
  H0comm := by
    intro x
    ext m a b
    simp only [coeff_SelS, map_sub, Matrix.sub_apply, coeff_H0s_mul, coeff_mul_H0s]
    by_cases hk : p.keptE a.val b.val = true <;> simp [hk]
  inj := by
    intro k x hsel hcomm m hm
    funext a b
    have h1 := congrFun (congrFun (hcomm m hm) a) b
    simp only [map_sub, Matrix.sub_apply, coeff_H0s_mul, coeff_mul_H0s, Matrix.zero_apply] at h1
    by_cases hk : p.keptE a.val b.val = true
    · have h0 : coeff m (p.SelS x) a b = 0 := by rw [hsel]; rfl
      rw [coeff_SelS, hk] at h0
      simpa using h0
    · have hk' : p.keptE a.val b.val = false := by simpa using hk
      have hne := A.absGt_ne _ (A.gap a b hk')
      have : (p.energy a.val - p.energy b.val) * coeff m x a b = 0 := by rw [← h1]; ring
      rcases mul_eq_zero.mp this with h | h
      · exact absurd h hne
      · exact h

include Y in
theorem sol_main : TheoremU.Sol (p.ctx R A h2) (p.sr "U'") := by
  rw [p.sr_P R]
  exact (p.hypH R Y A h2).sol (p.ctx R A h2) rfl rfl rfl rfl (p.V_sel R)

theorem ctx_ham : (p.ctx R A h2).H0 + (p.ctx R A h2).H' = p.sr "H" := by
  rw [p.sr_H R A, add_assoc]
  rfl

theorem sol_iff {P : Sr (Fin p.nparams) K p.d} : TheoremU.Sol (p.ctx R A h2) P ↔
    coeff 0 P = 0 ∧ (1 + star P) * (1 + P) = 1 ∧
    (∀ (m : Fin p.nparams →₀ ℕ) (a b : Fin p.d), p.keptE a.val b.val = true → coeff m (P - star P) a b = 0) ∧
    ∀ (m : Fin p.nparams →₀ ℕ) (a b : Fin p.d), p.keptE a.val b.val = false →
      coeff m ((1 + star P) * p.sr "H" * (1 + P) : Sr (Fin p.nparams) K p.d) a b = 0 := by
  have hm : P ∈ (p.ctx R A h2).Φ.F 1 ↔ coeff 0 P = 0 := mem_F1_iff
  have hg : (p.ctx R A h2).Sel (P - star P) = 0 ↔ _ := p.SelS_eq_zero_iff
  have he : ∀ x, x - (p.ctx R A h2).Sel x = 0 ↔ _ := fun x =>
    sub_eq_zero.trans (eq_comm.trans p.SelS_eq_self_iff)
  rw [← p.ctx_ham R A h2, ← hm, ← hg, ← he]
  exact ⟨fun s => ⟨s.mem, s.unit, s.gauge, s.elim⟩, fun s => ⟨s.1, s.2.1, s.2.2.1, s.2.2.2⟩⟩

include R Y A h2 in
/-- **C03, gauge**: the anti-Hermitian part of `U - 1` has no kept entry, at any order -/
theorem C03_gauge (m : Fin p.nparams →₀ ℕ) (a b : Fin p.d) (hk : p.keptE a.val b.val = true) :
    coeff m (p.sr "U'" - star (p.sr "U'")) a b = 0 :=
  ((p.sol_iff R A h2).mp (p.sol_main R Y A h2)).2.2.1 m a b hk

include Y in
/-- **C03, uniqueness**: any series solving the defining equations is the computed one -/
theorem C03_unique (P₂ : Sr (Fin p.nparams) K p.d) (hP : TheoremU.Sol (p.ctx R A h2) P₂) :
    P₂ = p.sr "U'" :=
  TheoremU.unique (p.ctx R A h2) hP (p.sol_main R Y A h2)

/-- the statement in terms of accepted problems -/
theorem C03 [LawfulThresholds K] (h : p.Accepted) (h2 : (2 : K) ≠ 0) :
    TheoremU.Sol (p.ctx h.ready h.acc h2) (p.sr "U'") ∧
    ∀ P₂, TheoremU.Sol (p.ctx h.ready h.acc h2) P₂ → P₂ = p.sr "U'" :=
  ⟨p.sol_main h.ready h.sym h.acc h2, fun P₂ hP => p.C03_unique h.ready h.sym h.acc h2 P₂ hP⟩

end Problem
end BlockDiag
end Pyma
#print axioms Pyma.BlockDiag.Problem.C03
