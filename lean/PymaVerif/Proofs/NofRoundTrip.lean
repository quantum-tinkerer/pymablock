/-
C08, round trip: for every operator expression `e` the kernel of `from_expr e` is the kernel of the
operator that `e` denotes — the composition of the actions of its generators on Fock space.  So
conversion to number-ordered form and its arithmetic denote the same operator as the original expression.
-/
import PymaVerif.Model.NofExpr
import PymaVerif.Proofs.NofAssoc

namespace Pyma
namespace Nof
open Finset

theorem ker_nil (s'' : Occ) : ker [] s'' = 0 := rfl

theorem ker_cons (e : Occ × GRat) (L : Img) (s'' : Occ) :
    ker (e :: L) s'' = (if e.1 = s'' then e.2 else 0) + ker L s'' := by
  simp [ker]

theorem ker_single (m : Occ) (a : GRat) (s'' : Occ) : ker [(m, a)] s'' = if m = s'' then a else 0 := by
  simp [ker]

theorem ker_append (L L' : Img) (s'' : Occ) : ker (L ++ L') s'' = ker L s'' + ker L' s'' := by
  simp [ker, List.map_append, List.sum_append]

theorem ker_scale (z : GRat) (L : Img) (s'' : Occ) : ker (Img.scale z L) s'' = z * ker L s'' := by
  induction L with
  | nil => simp [Img.scale, ker]
  | cons e L ih =>
    have : Img.scale z (e :: L) = (e.1, z * e.2) :: Img.scale z L := rfl
    rw [this, ker_cons, ker_cons, ih]
    split <;> ring

def states (L : Img) : Finset Occ := (L.map Prod.fst).toFinset

theorem ker_bind_eq_sum (L : Img) (g : Occ → Img) (s'' : Occ) :
    ker (Img.bind L g) s'' = (L.map fun e => e.2 * ker (g e.1) s'').sum := by
  induction L with
  | nil => rfl
  | cons e L ih =>
    rw [show Img.bind (e :: L) g = Img.scale e.2 (g e.1) ++ Img.bind L g from rfl, ker_append, ker_scale, ih,
      List.map_cons, List.sum_cons]

theorem ker_bind (L : Img) (g : Occ → Img) (s'' : Occ) (M : Finset Occ) (hM : states L ⊆ M) :
    ker (Img.bind L g) s'' = ∑ m ∈ M, ker L m * ker (g m) s'' :=
  (ker_bind_eq_sum L g s'').trans <| sum_pointMass_mul L Prod.fst Prod.snd (fun m => ker (g m) s'') M fun _ he =>
    hM (List.mem_toFinset.mpr (List.mem_map_of_mem he))

theorem pw_gen {c : Ctx} {i : Nat} (b : Bool) (hi : i < c.n) (j : Nat) :
    pw ({ powers := (List.replicate c.n (0 : Int)).set i (if b then -1 else 1), coeff := fun _ => 1 } : Term) j =
      if j = i then (if b then -1 else 1) else 0 := by
  show Occ.get (Occ.set (List.replicate c.n (0 : Int)) i _) j = _
  rw [get_set hi List.length_replicate, get_replicate]

theorem wf2_gen {c : Ctx} {i : Nat} (b : Bool) (hi : i < c.n) : WF2 c (gen c i b) := by
  intro t ht
  have : t = { powers := (List.replicate c.n (0 : Int)).set i (if b then -1 else 1), coeff := fun _ => 1 } := by
    simpa [gen] using ht
  subst this
  refine ⟨by simp, ?_, ?_⟩
  · intro j _ _
    rw [pw_gen b hi]
    by_cases h : j = i
    · rw [if_pos h]; cases b <;> simp
    · rw [if_neg h]; simp
  · intro _ _ _ _ _ _ _; rfl

theorem ampF'_gen_eq {c : Ctx} {i : Nat} (b : Bool) (hi : i < c.n) {s : Occ} (s'' : Occ) (hs : s.length = c.n) :
    ampF' c (gen c i b) s s'' = if Occ.shift s i (-(if b then -1 else 1)) = s'' then
      ofInt (gsg c i (if b then -1 else 1) s * modeAmp c i (Occ.get s i) (if b then -1 else 1)) else 0 := by
  set g : Term := { powers := (List.replicate c.n (0 : Int)).set i (if b then -1 else 1), coeff := fun _ => 1 }
  have hp : ∀ j, pw g j = if j = i then (if b then -1 else 1) else 0 := pw_gen b hi
  have htgt : tgt g s = Occ.shift s i (-(if b then -1 else 1)) := by
    refine occ_ext ((length_tgt g s).trans hs) (by simp [hs]) fun j hj => ?_
    rw [get_tgt hj hs, get_shift hi hs, hp j]
    by_cases h : j = i
    · rw [if_pos h, if_pos h, h, sub_eq_add_neg]
    · rw [if_neg h, if_neg h, sub_zero]
  have hann : annAmp c g s = modeAmp c i (Occ.get s i) (if b then -1 else 1) := by
    unfold annAmp
    rw [prod_eq_single i (fun j _ hji => by rw [hp j, if_neg hji, modeAmp_zero])
      (fun h => absurd (mem_range.mpr hi) h), hp i, if_pos rfl]
  have hsgn : sgn c g s = gsg c i (if b then -1 else 1) s := by
    rw [sgn_eq_prod, prod_eq_single i (fun j _ hji => by rw [hp j, if_neg hji, gsg_zero])
      (fun h => absurd (mem_range.mpr hi) h), hp i, if_pos rfl]
    refine gsg_congr s fun j hj => ?_
    rw [get_mid (hj.trans hi) hs, hp j, if_neg hj.ne]; simp
  rw [show gen c i b = [g] from rfl, ampF'_singleton, ampS'_eq, htgt, specAmpS, specAmp, hann, hsgn, ofInt_mul, show g.coeff (mid g s) = 1 from rfl,
    mul_one]

theorem ampF'_gen (c : Ctx) (i : Nat) (b : Bool) (hi : i < c.n) (s s'' : Occ) (hs : Valid c s) :
    ampF' c (gen c i b) s s'' = ker (genAct c i b s).toList s'' := by
  rw [ampF'_gen_eq b hi s'' hs.len]
  have hcount : loCount (isF c) (fun j => Occ.get s j) i =
      ((List.range i).filter fun j => c.kind j == .fermion && Occ.get s j == 1).length :=
    loCount_eq_length i
  unfold genAct gsg Occ.shift
  rw [hcount]
  cases hk : c.kind i with
  | boson =>
    have hF : isF c i = false := by simp [isF, hk]
    rw [modeAmp_boson hk]
    cases b with
    | true => simp [hF, ker_single, ofInt_one]
    | false =>
      by_cases hn : Occ.get s i = 0
      · simp [hF, hn, ker, ofInt_zero, falling_eq]
      · simp [hF, hn, ker_single, falling_eq, sub_eq_add_neg]
  | ladder =>
    have hF : isF c i = false := by simp [isF, hk]
    rw [modeAmp_ladder (by simp [Ctx.isInf, hk]) (by simp [hk])]
    cases b <;> simp [hF, ker_single, ofInt_one, sub_eq_add_neg]
  | spin =>
    have hF : isF c i = false := by simp [isF, hk]
    have hfin : c.isInf i = false := by simp [Ctx.isInf, hk]
    rw [modeAmp_fin hfin]
    rcases hs.bin i hi hfin with hn | hn <;> cases b <;> simp [hF, hn, ker, ofInt_zero, ofInt_one]
  | fermion =>
    have hF : isF c i = true := by simp [isF, hk]
    have hfin : c.isInf i = false := by simp [Ctx.isInf, hk]
    rw [modeAmp_fin hfin]
    generalize ((List.range i).filter fun j => c.kind j == .fermion && Occ.get s j == 1).length = N
    have hsg : ofInt (sgnI N) = if N % 2 == 1 then (-1 : GRat) else 1 := by
      unfold sgnI
      by_cases h : N % 2 = 1 <;> simp [h, ofInt_neg, ofInt_one]
    rcases hs.bin i hi hfin with hn | hn <;> cases b <;>
      simp [hF, hn, ker, ofInt_zero, hsg]

/-- `x` is well formed and acts on every valid state as `g` does -/
def ActsAs (c : Ctx) (x : Form) (g : Occ → Img) : Prop :=
  WF2 c x ∧ ∀ s s'', Valid c s → ampF' c x s s'' = ker (g s) s''

theorem actsAs_numberForm (c : Ctx) (h : Occ → GRat) : ActsAs c (numberForm c h) fun s => [(s, h s)] :=
  ⟨wf2_numberForm c h, fun s s'' _ => (ampF'_numberForm c h s s'').trans (ker_single s (h s) s'').symm⟩

theorem ActsAs.add {c : Ctx} {x y : Form} {gx gy : Occ → Img} (hx : ActsAs c x gx) (hy : ActsAs c y gy) :
    ActsAs c (add x y) fun s => gx s ++ gy s :=
  ⟨wf2_add c x y hx.1 hy.1, fun s s'' hs => by rw [rep_add, ker_append, hx.2 s s'' hs, hy.2 s s'' hs]⟩

theorem ActsAs.mul {c : Ctx} (hlast : FermionsLast c) {x y : Form} {gx gy : Occ → Img} (hx : ActsAs c x gx)
    (hy : ActsAs c y gy) : ActsAs c (mul c x y) fun s => Img.bind (gy s) gx := by
  refine ⟨wf2_mul c hlast x y hx.1 hy.1, fun s s'' hs => ?_⟩
  rw [kernel_comp c hlast x y s s'' hx.1 hy.1 hs (targets y s ∪ states (gy s)) subset_union_left,
    ker_bind (gy s) gx s'' (targets y s ∪ states (gy s)) subset_union_right]
  apply sum_congr rfl
  intro m _
  by_cases hv : Valid c m
  · rw [hy.2 s m hs, hx.2 m s'' hv]
  · rw [← hy.2 s m hs, ampF'_eq_zero_of_invalid hy.1 hs hv, zero_mul, zero_mul]

theorem ActsAs.npow {c : Ctx} (hlast : FermionsLast c) {x : Form} {gx : Occ → Img} (hx : ActsAs c x gx) :
    ∀ k, ActsAs c (npow c x k) (powAct gx k)
  | 0 => actsAs_numberForm c fun _ => 1
  | k + 1 => ⟨wf2_npow c hlast x hx.1 (k + 1), fun s s'' hs =>
      (rep_npow_succ c hlast x k s s'' hx.1 hs).trans (((hx.npow hlast k).mul hlast hx).2 s s'' hs)⟩

/-- Well-formedness is what the product step needs of its factors, so it is carried along. -/
theorem actsAs_fromExpr {c : Ctx} (hlast : FermionsLast c) :
    ∀ e : OpExpr, e.wf c = true → ActsAs c (fromExpr c e) (actE c e)
  | .scalar z, _ => actsAs_numberForm c fun _ => z
  | .gen i b, h => ⟨wf2_gen b (of_decide_eq_true h), ampF'_gen c i b (of_decide_eq_true h)⟩
  | .number i, _ => actsAs_numberForm c fun N => ofInt (Occ.get N i)
  | .fn f, _ => actsAs_numberForm c f
  | .add a b, h =>
    (actsAs_fromExpr hlast a (Bool.and_eq_true_iff.mp h).1).add (actsAs_fromExpr hlast b (Bool.and_eq_true_iff.mp h).2)
  | .mul a b, h =>
    (actsAs_fromExpr hlast a (Bool.and_eq_true_iff.mp h).1).mul hlast (actsAs_fromExpr hlast b (Bool.and_eq_true_iff.mp h).2)
  | .pow a k, h => (actsAs_fromExpr hlast a h).npow hlast k

theorem wf2_fromExpr (c : Ctx) (hlast : FermionsLast c) (e : OpExpr) (h : e.wf c = true) : WF2 c (fromExpr c e) :=
  (actsAs_fromExpr hlast e h).1

/-- **C08, round trip**: the kernel of `from_expr e` is the kernel of the operator `e` denotes. -/
theorem roundtrip (c : Ctx) (hlast : FermionsLast c) :
    ∀ (e : OpExpr), e.wf c = true → ∀ s s'', Valid c s → ampF' c (fromExpr c e) s s'' = ker (actE c e s) s'' :=
  fun e h => (actsAs_fromExpr hlast e h).2

/-! non-vacuity: a boson ⊗ fermion context, `N_a · N_f` written with generators -/

def c2 : Ctx := ⟨[.boson, .fermion]⟩

theorem c2_last : FermionsLast c2 := by
  intro i k hF hik hk
  have hk' : k < 2 := hk
  have : i = 0 := by omega
  subst this
  simp [isF, c2, Ctx.kind] at hF

def e0 : OpExpr := .mul (.mul (.gen 0 true) (.gen 0 false)) (.mul (.gen 1 true) (.gen 1 false))

theorem c2_valid : Valid c2 [2, 1] := ⟨rfl, by decide⟩

example : ampF' c2 (fromExpr c2 e0) [2, 1] [2, 1] = ker (actE c2 e0 [2, 1]) [2, 1] :=
  roundtrip c2 c2_last e0 rfl _ _ c2_valid

example : ker (actE c2 e0 [2, 1]) [2, 1] = ofInt 2 := by decide +kernel

end Nof
end Pyma
#print axioms Pyma.Nof.roundtrip
