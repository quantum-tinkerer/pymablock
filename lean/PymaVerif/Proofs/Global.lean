/-
From blocks to whole matrices: the global coefficient `G x n` of a series and the fact that a
declared product is the Cauchy product of the global coefficients of its factors.
-/
import PymaVerif.Proofs.StepSem
import PymaVerif.Proofs.Splits
import Mathlib.RingTheory.MvPowerSeries.Basic

namespace Pyma
namespace Dsl

variable {K : Type} [Field K] [StarRing K] [DecidableEq K] [Thresholds K]
attribute [local instance] Scalar.ofField

variable {B : Blocks} {p : Prog} {env : Env K}

theorem mat_suppM (he : EnvOK B env) (x : String) (idx : Idx) :
    SuppM B idx.i idx.j (mat B p env x idx) := by
  unfold mat
  by_cases h : ∃ v, Den p env x idx v
  · exact sem_suppM (Holds.supp he (den_spec h))
  · simp only [den, h, ↓reduceDIte]
    intro a b _; rfl

noncomputable def G (B : Blocks) (p : Prog) (env : Env K) (x : String) (n : List Nat) : MatK K B :=
  fun a b => mat B p env x ⟨B.blk a.val, B.blk b.val, n⟩ a b

theorem G_apply (x : String) (n : List Nat) (a b : Fin B.d) :
    G B p env x n a b = mat B p env x ⟨B.blk a.val, B.blk b.val, n⟩ a b := rfl

theorem Den.G_eq {x : String} {n : List Nat} {a b : Fin B.d} {v : SVal K}
    (h : Den p env x ⟨B.blk a.val, B.blk b.val, n⟩ v) :
    G B p env x n a b = sem B ⟨B.blk a.val, B.blk b.val, n⟩ v a b := by
  rw [G_apply, mat, den_eq h]

theorem mat_eq_G (he : EnvOK B env) (x : String) (i j : Nat) (n : List Nat) (a b : Fin B.d) :
    mat B p env x ⟨i, j, n⟩ a b = if B.blk a.val = i ∧ B.blk b.val = j then G B p env x n a b else 0 := by
  by_cases h : B.blk a.val = i ∧ B.blk b.val = j
  · obtain ⟨rfl, rfl⟩ := h
    exact (if_pos ⟨rfl, rfl⟩).symm
  · rw [if_neg h]
    exact mat_suppM he x ⟨i, j, n⟩ a b h

omit [StarRing K] [DecidableEq K] [Thresholds K] in
theorem list_sum_apply {ι : Type*} (l : List ι) (f : ι → MatK K B) (a b : Fin B.d) :
    (l.map f).sum a b = (l.map fun t => f t a b).sum := by
  induction l with
  | nil => rfl
  | cons t ts ih => simp [List.map_cons, List.sum_cons, Matrix.add_apply, ih]

theorem list_sum_comm {α β M : Type*} [AddCommMonoid M] (l : List α) (r : List β) (f : α → β → M) :
    (l.map fun a => (r.map fun b => f a b).sum).sum = (r.map fun b => (l.map fun a => f a b).sum).sum := by
  induction l with
  | nil => simp
  | cons a as ih =>
    simp only [List.map_cons, List.sum_cons, ih]
    rw [← List.sum_map_add]

/-- the sum over the middle block collapses by support -/
theorem pairSum_entry (he : EnvOK B env) (hN : ∀ a : Fin B.d, B.blk a.val < env.nblocks)
    (x y : String) (n : List Nat) (a b : Fin B.d) :
    pairSum B p env x y (B.blk a.val) (B.blk b.val) (pairsOf env.nblocks n) a b
      = ((splits n).map fun q => (G B p env x q.1 * G B p env y q.2) a b).sum := by
  unfold pairSum pairsOf
  rw [list_sum_apply, List.map_flatMap, List.flatMap_def, List.sum_flatten]
  simp only [List.map_map, Function.comp_def]
  have hcollapse : ∀ q : List Nat × List Nat,
      ((List.range env.nblocks).map fun m =>
        (mat B p env x ⟨B.blk a.val, m, q.1⟩ * mat B p env y ⟨m, B.blk b.val, q.2⟩) a b).sum
        = (G B p env x q.1 * G B p env y q.2) a b := by
    intro q
    simp only [Matrix.mul_apply]
    rw [← List.sum_toFinset _ (List.nodup_range), Finset.sum_comm]
    apply Finset.sum_congr rfl
    intro c _
    rw [Finset.sum_eq_single (B.blk c.val)]
    · rw [mat_eq_G he, mat_eq_G he]; simp
    · intro m _ hm
      rw [mat_eq_G he x]
      split
      · rename_i h; exact absurd h.2.symm hm
      · rw [zero_mul]
    · intro h
      exact absurd (by simpa using hN c) h
  rw [list_sum_comm]
  congr 1
  apply List.map_congr_left
  intro q _
  exact hcollapse q

noncomputable def Ser (B : Blocks) (p : Prog) (env : Env K) (k : Nat) (x : String) :
    MvPowerSeries (Fin k) (MatK K B) :=
  fun m => G B p env x (toList m)

theorem coeff_Ser (k : Nat) (x : String) (m : Fin k →₀ ℕ) :
    MvPowerSeries.coeff m (Ser B p env k x) = G B p env x (toList m) := rfl

/-- a declared product denotes the product of power series -/
theorem Ser_product (he : EnvOK B env) (S : EnvSem B env)
    (hN : ∀ a : Fin B.d, B.blk a.val < env.nblocks) (k : Nat) {x a b : String}
    (hk : kindOf p env x = .product a b) (hder : ∀ idx, ∃ v, Den p env x idx v) :
    Ser B p env k x = Ser B p env k a * Ser B p env k b := by
  ext m r c
  rw [coeff_Ser, MvPowerSeries.coeff_mul]
  rw [Matrix.sum_apply]
  obtain ⟨v, hv⟩ := hder ⟨B.blk r.val, B.blk c.val, toList m⟩
  rw [G_apply, Den.sat he S hv]
  simp only [elemSem, hk]
  rw [pairSum_entry he hN, sum_splits m (fun q1 q2 => (G B p env a q1 * G B p env b q2) r c)]
  rfl

end Dsl
end Pyma

#print axioms Pyma.Dsl.Ser_product
