/-
Key normalisation: the symbols come out strictly sorted by name and are exactly the symbols that occur, so the result does not depend on the
order of the dictionary entries nor on the order of the factors of a monomial key; a list input gives the zero tuple and the unit tuples.
Blocks from `subspace_indices`: the states of a block keep their order of appearance, and the blocks partition the states.
-/
import PymaVerif.Model.Formats
import PymaVerif.Proofs.InsertNew
import Mathlib.Data.String.Basic
import Mathlib.Data.List.Sort

namespace Pyma
namespace Formats

theorem insertSorted_eq (s : String) : ∀ l : List String, insertSorted s l = insertNew s l
  | [] => rfl
  | x :: xs => by
    unfold insertSorted insertNew
    rw [insertSorted_eq s xs]
    by_cases h1 : s = x
    · rw [if_pos (by simpa using h1), if_pos h1]
    · rw [if_neg (by simpa using h1), if_neg h1]

theorem symbolsOf_eq (keys : List Monomial) :
    symbolsOf keys = (keys.flatMap fun m => m.map (·.1)).foldl (fun acc s => insertNew s acc) [] := by
  unfold symbolsOf
  congr
  funext acc s
  exact insertSorted_eq s acc

theorem symbolsOf_sorted (keys : List Monomial) : (symbolsOf keys).Pairwise (· < ·) :=
  symbolsOf_eq keys ▸ foldl_insertNew_sorted _

theorem mem_symbolsOf (keys : List Monomial) (t : String) : t ∈ symbolsOf keys ↔ ∃ m ∈ keys, ∃ e, (t, e) ∈ m := by
  rw [symbolsOf_eq, mem_foldl_insertNew]
  simp only [List.mem_flatMap, List.mem_map]
  constructor
  · rintro ⟨m, hm, ⟨⟨s, e⟩, hse, rfl⟩⟩; exact ⟨m, hm, e, hse⟩
  · rintro ⟨m, hm, e, he⟩; exact ⟨m, hm, ⟨(t, e), he, rfl⟩⟩

/-- **C13 (keys)**: the order of the dictionary entries is irrelevant for the symbol order -/
theorem symbolsOf_perm {k₁ k₂ : List Monomial} (h : k₁.Perm k₂) : symbolsOf k₁ = symbolsOf k₂ :=
  (symbolsOf_sorted k₁).eq_of_mem_iff (symbolsOf_sorted k₂) fun t => by
    rw [mem_symbolsOf, mem_symbolsOf]
    exact exists_congr fun m => and_congr_left' h.mem_iff

theorem power_eq_of_mem {s : String} {e : Nat} : ∀ {m : Monomial}, (m.map (·.1)).Nodup → (s, e) ∈ m → power m s = e
  | (n, e') :: xs, hnd, he => by
    obtain ⟨hn, hnd⟩ := List.nodup_cons.mp hnd
    unfold power
    rw [List.find?_cons]
    rcases List.mem_cons.mp he with h | h
    · cases h; simp
    · have hns : (n == s) = false := beq_eq_false_iff_ne.mpr fun e' => hn (e' ▸ List.mem_map.mpr ⟨(s, e), h, rfl⟩)
      simp only [hns]
      exact power_eq_of_mem hnd h

theorem power_eq_zero {s : String} {m : Monomial} (h : ∀ e, (s, e) ∉ m) : power m s = 0 := by
  unfold power
  rw [List.find?_eq_none.mpr fun x hx hxs => h x.2 (by rw [← beq_iff_eq.mp hxs]; exact hx)]

theorem power_perm {m₁ m₂ : Monomial} (h : m₁.Perm m₂) (hn : (m₁.map (·.1)).Nodup) (s : String) : power m₁ s = power m₂ s := by
  by_cases hs : ∃ e, (s, e) ∈ m₁
  · obtain ⟨e, he⟩ := hs
    rw [power_eq_of_mem hn he, power_eq_of_mem ((h.map _).nodup_iff.mp hn) (h.mem_iff.mp he)]
  · rw [power_eq_zero fun e he => hs ⟨e, he⟩, power_eq_zero fun e he => hs ⟨e, h.mem_iff.mpr he⟩]

theorem listKeys_spec (k : Nat) : (listKeys (k + 1)).head? = some (List.replicate k 0) ∧
    ∀ i, i < k → (listKeys (k + 1))[i + 1]? = some (unitVec k i) := by
  refine ⟨rfl, fun i hi => ?_⟩
  simp [listKeys, hi]

example : keysToTuples [[("x2", 1)], [("x10", 2), ("x2", 1)], []] = (["x10", "x2"], [[0, 1], [2, 1], [0, 0]]) := by decide +kernel

theorem mem_blockStates (labels : List Nat) (b a : Nat) : a ∈ blockStates labels b ↔ ∃ h : a < labels.length, labels[a] = b := by
  unfold blockStates
  simp only [List.mem_filter, List.mem_range, beq_iff_eq]
  exact exists_prop.symm.trans (exists_congr fun h => by rw [List.getD_eq_getElem?_getD, List.getElem?_eq_getElem h, Option.getD_some])

theorem blockStates_sorted (labels : List Nat) (b : Nat) : (blockStates labels b).Pairwise (· < ·) := by
  unfold blockStates
  exact List.Pairwise.filter _ (List.pairwise_lt_range)

theorem subspaces_partition (labels : List Nat) (a : Nat) (ha : a < labels.length) :
    ∃ hb : labels[a] < (subspaces labels).length, a ∈ (subspaces labels)[labels[a]] ∧
      ∀ b (hb' : b < (subspaces labels).length), a ∈ (subspaces labels)[b] → b = labels[a] := by
  have hlen : (subspaces labels).length = labels.foldl max 0 + 1 := by simp [subspaces]
  have hle : labels[a] ≤ labels.foldl max 0 := le_foldl_max_of_mem (f := id) 0 (List.getElem_mem ha)
  refine ⟨by omega, ?_, ?_⟩
  · simp only [subspaces, List.getElem_map, List.getElem_range]
    exact (mem_blockStates labels _ a).2 ⟨ha, rfl⟩
  · intro b hb' hmem
    simp only [subspaces, List.getElem_map, List.getElem_range] at hmem
    obtain ⟨_, h⟩ := (mem_blockStates labels b a).1 hmem
    exact h.symm

end Formats
end Pyma
