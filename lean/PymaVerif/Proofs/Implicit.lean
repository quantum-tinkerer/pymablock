/-
C06 (implicit mode) as an instance of ring-level naturality.  `p` is the explicit problem (all blocks given in the eigenbasis of `H_0`); an implicit
environment for it (`ImplicitSpec`) is any environment over a carrier `B'` related to it by an isometry `E` (`E = 1_A ⊕ R_B` in the implementation) whose
inputs are the embedded inputs `E·H_n·Eᴴ` and whose Sylvester solver returns, on off-diagonal blocks, *a* solution of the projected equation in the range
of `E Eᴴ`, supported on the block (what the direct solver computes, `Greens.direct_solve`) — no formula for it is assumed.  Every series of `main` other
than `U`, `U†` (whose `one` start has no counterpart in the implicit carrier) then takes the embedded value of the explicit run.
-/
import PymaVerif.Proofs.Isometry
import PymaVerif.Proofs.ProblemSupp

namespace Pyma
namespace Dsl
open Generated

def mainCertNoU : Cert :=
  { mainCert with names := BlockDiag.Problem.mainNames.filter fun x => x != "U" && x != "U†" }

theorem mainCertNoU_ok : mainCertNoU.ok main = true := by decide +kernel

theorem mainCertNoU_noOne : (mainCertNoU.names.all fun x =>
    match kindI main mainCertNoU.inputs x with
    | .series d => d.start != .one
    | _ => true) = true := by decide +kernel

end Dsl

namespace BlockDiag
open Dsl Generated
namespace Problem

variable {K : Type} [Field K] [StarRing K] [DecidableEq K] [Thresholds K]
attribute [local instance] Scalar.ofField
variable (p : Problem K) {B' : Blocks} (E : Matrix (Fin B'.d) (Fin p.blocks.d) K)

theorem solveSem_sylvester_sep (hgt : ∀ (x : K) (t : Rat), Thresholds.absGt x t = true → x ≠ 0) (idx : Idx)
    (hsep : ∀ a b : Fin p.d, p.blk a.val = idx.i → p.blk b.val = idx.j →
      Thresholds.absGt (p.energy a.val - p.energy b.val) p.atol = true)
    (Y : MatK K p.blocks) (hY : SuppM p.blocks idx.i idx.j Y) :
    p.H0m * p.solveSem Y idx - p.solveSem Y idx * p.H0m = Y := by
  funext a b
  rw [p.solveSem_sylvester hgt Y idx a b]
  by_cases hin : p.blk a.val = idx.i ∧ p.blk b.val = idx.j
  · rw [if_pos ⟨p.inBlock_iff.mpr hin, hsep a b hin.1 hin.2⟩]
  · rw [if_neg (fun h => hin (p.inBlock_iff.mp h.1)), hY a b hin]

theorem implicit_offdiag_solver (hgt : ∀ (x : K) (t : Rat), Thresholds.absGt x t = true → x ≠ 0)
    (hE : Isometry (B := p.blocks) E) (idx : Idx)
    (hsep : ∀ a b : Fin p.d, p.blk a.val = idx.i → p.blk b.val = idx.j →
      Thresholds.absGt (p.energy a.val - p.energy b.val) p.atol = true)
    (Y : MatK K p.blocks) (hY : SuppM p.blocks idx.i idx.j Y)
    (V' : MatK K B') (hrange : proj E * V' * proj E = V') (hsupp : SuppM B' idx.i idx.j V')
    (heq : isoM E p.H0m * V' - V' * isoM E p.H0m = isoM E Y) :
    V' = isoM E (p.solveSem Y idx) :=
  sylvester_embedded_unique hE (fun a => p.energy a.val) idx.i idx.j
    (fun a b ha hb h => hgt _ _ (hsep a b ha hb) (sub_eq_zero.mpr h))
    Y (p.solveSem Y idx) (p.solveSem_supp Y idx) (p.solveSem_sylvester_sep hgt idx hsep Y hY) V' hrange hsupp heq

structure ImplicitSpec (hwf : p.WF) (env' : Env K) (S' : EnvSem B' env') : Prop where
  iso : Isometry (B := p.blocks) E
  inputs : env'.inputs = p.env.inputs
  nblocks : env'.nblocks = p.env.nblocks
  flagName : env'.flagName = p.env.flagName
  flagIdx : env'.flagIdx = p.env.flagIdx
  offdiag_some : env'.offdiag.isSome = p.env.offdiag.isSome
  input : ∀ h idx, sem B' idx (env'.input h idx) = isoM E (sem p.blocks idx (p.env.input h idx))
  sep : ∀ i j : Nat, i ≠ j → ∀ a b : Fin p.d, p.blk a.val = i → p.blk b.val = j →
    Thresholds.absGt (p.energy a.val - p.energy b.val) p.atol = true
  other_fn : ∀ f X idx, (f == "solve_sylvester") = false → S'.fnVal f X idx = 0
  /-- off-diagonal blocks: the solver returns *some* solution of the projected equation in the range -/
  solver_off : ∀ (Y : MatK K p.blocks) (idx : Idx), idx.i ≠ idx.j → SuppM p.blocks idx.i idx.j Y →
    proj E * S'.fnVal "solve_sylvester" (isoM E Y) idx * proj E = S'.fnVal "solve_sylvester" (isoM E Y) idx ∧
    SuppM B' idx.i idx.j (S'.fnVal "solve_sylvester" (isoM E Y) idx) ∧
    isoM E p.H0m * S'.fnVal "solve_sylvester" (isoM E Y) idx
      - S'.fnVal "solve_sylvester" (isoM E Y) idx * isoM E p.H0m = isoM E Y
  /-- diagonal blocks (fully diagonalised explicit blocks): solver and masks commute with the embedding -/
  solver_diag : ∀ (Y : MatK K p.blocks) (idx : Idx), idx.i = idx.j → SuppM p.blocks idx.i idx.j Y →
    S'.fnVal "solve_sylvester" (isoM E Y) idx = isoM E (p.solveSem Y idx)
  diag : ∀ X idx, SuppM p.blocks idx.i idx.j X → S'.diag (isoM E X) idx = isoM E ((p.envSem hwf).diag X idx)
  offdiag : ∀ X idx, SuppM p.blocks idx.i idx.j X →
    S'.offdiag (isoM E X) idx = isoM E ((p.envSem hwf).offdiag X idx)

variable {E}

theorem inter_implicit (hgt : ∀ (x : K) (t : Rat), Thresholds.absGt x t = true → x ≠ 0)
    (hwf : p.WF) (env' : Env K) (S' : EnvSem B' env') (h : p.ImplicitSpec E hwf env' S') :
    Inter (isoM E) p.env env' (p.envSem hwf) S' where
  mul := isoM_mul h.iso
  adj := isoM_adj
  smul := fun k X => isoM_smul _ X
  inputs := h.inputs
  nblocks := h.nblocks
  input := h.input
  fn_supp := p.fnVal_supp hwf
  fnVal := by
    intro f X idx hX
    rw [envSem_fnVal]
    by_cases hf : (f == "solve_sylvester") = true
    · rw [if_pos hf]
      obtain rfl : f = "solve_sylvester" := beq_iff_eq.mp hf
      by_cases hij : idx.i = idx.j
      · exact h.solver_diag X idx hij hX
      · obtain ⟨h1, h2, h3⟩ := h.solver_off X idx hij hX
        exact p.implicit_offdiag_solver E hgt h.iso idx (h.sep idx.i idx.j hij) X hX _ h1 h2 h3
    · rw [h.other_fn f _ idx (eq_false_of_ne_true hf), if_neg hf]
      exact (isoM E).map_zero.symm
  diag := h.diag
  offdiag := h.offdiag
  offdiag_some := h.offdiag_some
  flagName := h.flagName
  flagIdx := h.flagIdx

/-- **C06**: in an implicit environment every series of `main` except `U`, `U†` is the embedded explicit
one, at every block and order. -/
theorem C06_implicit (hgt : ∀ (x : K) (t : Rat), Thresholds.absGt x t = true → x ≠ 0)
    (hwf : p.WF) (hns : p.NoShared) (env' : Env K) (S' : EnvSem B' env')
    (h : p.ImplicitSpec E hwf env' S') (he' : EnvOK B' env') (het' : EnvTot mainCert env')
    (x : String) (hx : x ∈ mainCertNoU.names) (idx : Idx) :
    mat B' main env' x idx = isoM E (mat p.blocks main p.env x idx) := by
  -- the two certificates differ in their names only
  have het'' : EnvTot mainCertNoU env' :=
    ⟨het'.inputs, het'.input_ne, het'.fn_tot, het'.diag_ne, het'.offdiag_ne⟩
  refine sem_natural (isoM E) (p.envSem hwf) S' (p.inter_implicit hgt hwf env' S' h) mainCertNoU
    mainCertNoU_ok (p.envOK hwf) he' (p.envTot hns) het'' ?_ (deg idx.n) x hx idx rfl
  rintro ⟨y, hy, d, hk, hs⟩
  have := List.all_eq_true.mp mainCertNoU_noOne y hy
  rw [hk] at this
  simp [hs] at this

omit [DecidableEq K] [Thresholds K] in
theorem isoM_one (X : MatK K p.blocks) :
    isoM (B := p.blocks) (B' := p.blocks) (1 : Matrix (Fin p.blocks.d) (Fin p.blocks.d) K) X = X := by
  simp [isoM_def]

/-- non-vacuity: the explicit environment is an implicit environment for the identity embedding -/
theorem implicitSpec_refl (hgt : ∀ (x : K) (t : Rat), Thresholds.absGt x t = true → x ≠ 0) (hwf : p.WF)
    (hsep : ∀ i j : Nat, i ≠ j → ∀ a b : Fin p.d, p.blk a.val = i → p.blk b.val = j →
      Thresholds.absGt (p.energy a.val - p.energy b.val) p.atol = true) :
    p.ImplicitSpec (B' := p.blocks) (1 : Matrix (Fin p.blocks.d) (Fin p.blocks.d) K) hwf p.env (p.envSem hwf) where
  iso := by
    refine ⟨by simp, ?_⟩
    intro a' a h
    have : a' = a := by
      by_contra hne
      exact h (Matrix.one_apply_ne hne)
    rw [this]
  inputs := rfl
  nblocks := rfl
  flagName := rfl
  flagIdx := rfl
  offdiag_some := rfl
  input := by intro h idx; rw [isoM_one]
  sep := hsep
  other_fn := by
    intro f X idx hf
    rw [envSem_fnVal, hf]
    rfl
  solver_off := by
    intro Y idx hij hY
    simp only [isoM_one, envSem_fnVal_solve]
    exact ⟨by simp [proj], p.solveSem_supp Y idx, p.solveSem_sylvester_sep hgt idx (hsep idx.i idx.j hij) Y hY⟩
  solver_diag := by
    intro Y idx _ _
    rw [isoM_one, isoM_one, envSem_fnVal_solve]
  diag := by intro X idx _; rw [isoM_one, isoM_one]
  offdiag := by intro X idx _; rw [isoM_one, isoM_one]

end Problem
end BlockDiag
end Pyma
#print axioms Pyma.BlockDiag.Problem.C06_implicit
