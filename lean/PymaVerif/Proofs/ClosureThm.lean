/-
`Closure.closure n r` is the smallest transitive relation on `0 … n-1` that contains `r`; it is symmetric when `r` is, and depends on
`r` only through its values on `0 … n-1`.
-/
import PymaVerif.Model.Closure
import Mathlib.Data.Finset.Prod
import Mathlib.Logic.Relation

namespace Pyma
namespace Closure

theorem idx_lt {n a b : Nat} (ha : a < n) (hb : b < n) : a * n + b < n * n := by
  have h : (a + 1) * n ≤ n * n := Nat.mul_le_mul_right n ha
  rw [Nat.succ_mul] at h
  omega

theorem idx_div {n a b : Nat} (hb : b < n) : (a * n + b) / n = a := by
  have hn : 0 < n := by omega
  rw [Nat.add_comm, Nat.add_mul_div_right _ _ hn, Nat.div_eq_of_lt hb, Nat.zero_add]

theorem div_mod_lt {n i : Nat} (hi : i < n * n) : i / n < n ∧ i % n < n := by
  have hn : 0 < n := Nat.pos_of_ne_zero fun h0 => by subst h0; simp at hi
  exact ⟨Nat.div_lt_of_lt_mul hi, Nat.mod_lt _ hn⟩

theorem length_ofFn (n : Nat) (r : Nat → Nat → Bool) : (ofFn n r).length = n * n := by simp [ofFn]

theorem get_ofFn {n : Nat} (r : Nat → Nat → Bool) {a b : Nat} (ha : a < n) (hb : b < n) : get n (ofFn n r) a b = r a b := by
  have hi := idx_lt ha hb
  simp [get, ofFn, ha, hb, List.getD_eq_getElem?_getD, hi, idx_div hb, Nat.mul_add_mod_of_lt hb]

theorem lt_of_get {n : Nat} {t : Tab} {a b : Nat} (h : get n t a b = true) : a < n ∧ b < n := by
  simp only [get, Bool.and_eq_true, decide_eq_true_eq] at h
  exact h.1

theorem length_step (n : Nat) (t : Tab) : (step n t).length = n * n := length_ofFn n _

theorem get_step {n : Nat} (t : Tab) {a b : Nat} (ha : a < n) (hb : b < n) :
    get n (step n t) a b = (get n t a b || (List.range n).any fun c => get n t a c && get n t c b) := by
  unfold step
  rw [get_ofFn _ ha hb]

theorem get_eq_getElem {n : Nat} {t : Tab} {i : Nat} (hi : i < n * n) (hl : t.length = n * n) :
    get n t (i / n) (i % n) = t[i]'(by rw [hl]; exact hi) := by
  obtain ⟨ha, hb⟩ := div_mod_lt hi
  have h1 : i < t.length := by rw [hl]; exact hi
  simp [get, ha, hb, Nat.div_add_mod' i n, List.getD_eq_getElem?_getD, List.getElem?_eq_getElem h1]

theorem ext_get {n : Nat} {t t' : Tab} (hl : t.length = n * n) (hl' : t'.length = n * n) (h : ∀ a b, a < n → b < n → get n t a b = get n t' a b) : t = t' := by
  apply List.ext_getElem (by rw [hl, hl'])
  intro i h1 _
  have hi : i < n * n := by rw [← hl]; exact h1
  rw [← get_eq_getElem hi hl, ← get_eq_getElem hi hl']
  exact h _ _ (div_mod_lt hi).1 (div_mod_lt hi).2

/-! counting: a round that changes the table relates more pairs than before, and there are `n·n` pairs -/

/-- the pairs a table relates -/
def pairs (n : Nat) (t : Tab) : Finset (Nat × Nat) := {x ∈ Finset.range n ×ˢ Finset.range n | get n t x.1 x.2 = true}

theorem card_pairs_le (n : Nat) (t : Tab) : (pairs n t).card ≤ n * n :=
  (Finset.card_filter_le _ _).trans_eq (by rw [Finset.card_product, Finset.card_range])

theorem get_step_of_get {n : Nat} {t : Tab} {a b : Nat} (h : get n t a b = true) : get n (step n t) a b = true := by
  rw [get_step t (lt_of_get h).1 (lt_of_get h).2, h, Bool.true_or]

theorem step_eq_of_card_le {n : Nat} {t : Tab} (hl : t.length = n * n) (h : (pairs n (step n t)).card ≤ (pairs n t).card) : step n t = t := by
  have heq : pairs n t = pairs n (step n t) :=
    Finset.eq_of_subset_of_card_le (Finset.monotone_filter_right _ fun _ _ => get_step_of_get) h
  refine (ext_get hl (length_step n t) fun a b ha hb => Bool.eq_iff_iff.mpr ?_).symm
  simpa [pairs, ha, hb] using Finset.ext_iff.mp heq (a, b)

theorem fix_fixpoint {n : Nat} (f : Nat) (t : Tab) (hl : t.length = n * n) (hc : n * n ≤ (pairs n t).card + f) :
    step n (fix n f t) = fix n f t := by
  induction f generalizing t with
  | zero => exact step_eq_of_card_le hl ((card_pairs_le n _).trans hc)
  | succ f ih =>
    unfold fix
    split
    · next h => exact eq_of_beq h
    · next h =>
      have hlt : (pairs n t).card < (pairs n (step n t)).card :=
        Nat.lt_of_not_le fun hle => h (beq_iff_eq.mpr (step_eq_of_card_le hl hle))
      exact ih _ (length_step n t) (by omega)

theorem fix_induction {n : Nat} (P : Tab → Prop) (hstep : ∀ t, P t → P (step n t)) : ∀ (f : Nat) (t : Tab), P t → P (fix n f t)
  | 0, _, h => h
  | f + 1, t, h => by
      unfold fix
      split
      · exact h
      · exact fix_induction P hstep f _ (hstep t h)

theorem length_fix {n : Nat} : ∀ (f : Nat) (t : Tab), t.length = n * n → (fix n f t).length = n * n :=
  fix_induction (fun t => t.length = n * n) fun t _ => length_step n t

theorem get_fix_of_get {n : Nat} {a b : Nat} : ∀ (f : Nat) (t : Tab), get n t a b = true → get n (fix n f t) a b = true :=
  fix_induction (fun t => get n t a b = true) fun _ => get_step_of_get

variable {n : Nat} {r : Nat → Nat → Bool}

theorem closure_lt {a b : Nat} (h : closure n r a b = true) : a < n ∧ b < n :=
  lt_of_get h

theorem closure_of_rel {a b : Nat} (ha : a < n) (hb : b < n) (h : r a b = true) : closure n r a b = true :=
  get_fix_of_get _ _ (by rw [get_ofFn r ha hb]; exact h)

theorem closure_trans {a b c : Nat} (h1 : closure n r a c = true) (h2 : closure n r c b = true) : closure n r a b = true := by
  obtain ⟨ha, hc⟩ := closure_lt h1
  obtain ⟨_, hb⟩ := closure_lt h2
  have hfix := fix_fixpoint (n := n) (n * n) (ofFn n r) (length_ofFn n r) (Nat.le_add_left _ _)
  unfold closure at *
  rw [← hfix, get_step _ ha hb]
  apply Bool.or_eq_true_iff.mpr
  right
  exact List.any_eq_true.mpr ⟨c, List.mem_range.mpr hc, by rw [h1, h2]; rfl⟩

theorem closure_minimal (S : Nat → Nat → Prop) (hr : ∀ a b, a < n → b < n → r a b = true → S a b)
    (htr : ∀ a b c, a < n → b < n → c < n → S a c → S c b → S a b) {a b : Nat} (h : closure n r a b = true) : S a b := by
  refine fix_induction (n := n) (fun t => ∀ a b, a < n → b < n → get n t a b = true → S a b) (fun t ht a b ha hb hab => ?_) (n * n) (ofFn n r)
    (fun a b ha hb hab => hr a b ha hb (get_ofFn r ha hb ▸ hab)) a b (closure_lt h).1 (closure_lt h).2 h
  rw [get_step t ha hb, Bool.or_eq_true, List.any_eq_true] at hab
  rcases hab with h | ⟨c, hc, hh⟩
  · exact ht a b ha hb h
  · rw [Bool.and_eq_true] at hh
    have hc := List.mem_range.mp hc
    exact htr a b c ha hb hc (ht a c ha hc hh.1) (ht c b hc hb hh.2)

theorem closure_congr {r r' : Nat → Nat → Bool} (h : ∀ a b, a < n → b < n → r a b = r' a b) : closure n r = closure n r' := by
  have : ofFn n r = ofFn n r' :=
    List.map_congr_left fun i hi => h _ _ (div_mod_lt (List.mem_range.mp hi)).1 (div_mod_lt (List.mem_range.mp hi)).2
  funext a b
  unfold closure
  rw [this]

variable (r) in
theorem closure_eq_self_of_trans (htr : ∀ a b c, a < n → b < n → c < n → r a c = true → r c b = true → r a b = true) {a b : Nat}
    (ha : a < n) (hb : b < n) : closure n r a b = r a b := by
  apply Bool.eq_iff_iff.mpr
  constructor
  · intro h
    exact closure_minimal (fun a b => r a b = true) (fun _ _ _ _ h => h) htr h
  · exact closure_of_rel ha hb

/-- for "equal within atol" inside a block: joined by a chain of levels each within `atol` of the next (the labels of `connected_components` agree) -/
theorem closure_iff_chain {a b : Nat} :
    closure n r a b = true ↔ Relation.TransGen (fun x y => x < n ∧ y < n ∧ r x y = true) a b := by
  constructor
  · intro h
    exact closure_minimal (fun x y => Relation.TransGen (fun x y => x < n ∧ y < n ∧ r x y = true) x y)
      (fun x y hx hy hxy => Relation.TransGen.single ⟨hx, hy, hxy⟩)
      (fun _ _ _ _ _ _ h1 h2 => Relation.TransGen.trans h1 h2) h
  · intro h
    induction h with
    | single hxy => exact closure_of_rel hxy.1 hxy.2.1 hxy.2.2
    | tail _ hyz ih => exact closure_trans ih (closure_of_rel hyz.1 hyz.2.1 hyz.2.2)

theorem closure_symm (hs : ∀ a b, a < n → b < n → r a b = r b a) (a b : Nat) : closure n r a b = closure n r b a := by
  have : Std.Symm fun x y => x < n ∧ y < n ∧ r x y = true := ⟨fun x y ⟨hx, hy, h⟩ => ⟨hy, hx, hs x y hx hy ▸ h⟩⟩
  rw [Bool.eq_iff_iff, closure_iff_chain, closure_iff_chain]
  exact ⟨Std.Symm.symm _ _, Std.Symm.symm _ _⟩

end Closure
end Pyma
