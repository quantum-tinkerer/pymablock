/-
Formal power series over matrices on a `BlockDiag.Problem`: the degree filtration, the kept-part projection
`SelS` and the block parts.  Then the series of a translated program, for any program that runs on the
problem (`Runs`): what a declared series (`coeff_Ser`: start value plus body, at every order) and a declared
product are, which names have no constant term,
and the shapes every program shares (`1 + x`; the input as `H_0` plus the kept and the remaining part of
the perturbation; a kept `H_tilde`).
-/
import PymaVerif.Proofs.EntrySem
import PymaVerif.Proofs.Filtered

namespace Pyma
namespace BlockDiag
open Dsl MvPowerSeries
namespace Problem

variable {K : Type} [Field K] [StarRing K] [DecidableEq K] [Thresholds K]
attribute [local instance] Scalar.ofField
variable (p : Problem K)

abbrev S' := Sr (Fin p.nparams) K p.d
abbrev F' (k : ℕ) := FDeg (Fin p.nparams) (Mt K p.d) k

def filt : Filtration (Sr (Fin p.nparams) K p.d) where
  F := fun k => FDeg (Fin p.nparams) (Mt K p.d) k
  top := FDeg_top
  mul_mem := fun hx hy => FDeg_mul hx hy
  sep := FDeg_sep
  anti := FDeg_anti

theorem star_mem_F (k : ℕ) (x : Sr (Fin p.nparams) K p.d) (hx : x ∈ FDeg (Fin p.nparams) (Mt K p.d) k) :
    star x ∈ FDeg (Fin p.nparams) (Mt K p.d) k := by
  intro m hm
  rw [coeff_star, hx m hm, star_zero]

theorem coeff_star_apply (x : Sr (Fin p.nparams) K p.d) (m : Fin p.nparams →₀ ℕ) (a b : Fin p.d) :
    coeff m (star x) a b = star (coeff m x b a) := by
  rw [coeff_star]; rfl

theorem star_coeffwise_swap (f g : Fin p.d → Fin p.d → Bool) (hfg : ∀ a b, f a b = g b a)
    (x : Sr (Fin p.nparams) K p.d) :
    star (coeffwise (maskMap f) x) = coeffwise (maskMap g) (star x) := by
  ext m a b
  rw [coeff_star_apply, coeff_coeffwise, coeff_coeffwise, maskMap_apply, maskMap_apply, coeff_star_apply,
    hfg b a]
  by_cases h : g a b <;> simp [h]


theorem two_inv (h2 : (2 : K) ≠ 0) (x : K) : 2 * (((2 : ℤ) : K)⁻¹ * x) = x := by
  rw [Int.cast_ofNat, ← mul_assoc, mul_inv_cancel₀ h2, one_mul]

theorem neg_two_inv_mul (h2 : (2 : K) ≠ 0) (x : K) : 2 * (((-2 : ℤ) : K)⁻¹ * x) = -x := by
  rw [Int.cast_neg, inv_neg, neg_mul, mul_neg, two_inv h2]

def kp (a b : Fin p.d) : Bool := p.keptE a.val b.val

noncomputable def SelS : Sr (Fin p.nparams) K p.d →+ Sr (Fin p.nparams) K p.d := coeffwise (maskMap p.kp)

theorem coeff_SelS (x : Sr (Fin p.nparams) K p.d) (m : Fin p.nparams →₀ ℕ) (a b : Fin p.d) :
    coeff m (p.SelS x) a b = if p.keptE a.val b.val then coeff m x a b else 0 := by
  rw [SelS, coeff_coeffwise, maskMap_apply]; rfl

theorem SelS_idem (x : Sr (Fin p.nparams) K p.d) : p.SelS (p.SelS x) = p.SelS x := by
  rw [SelS]
  ext m : 1
  rw [coeff_coeffwise, coeff_coeffwise, maskMap_idem]

theorem SelS_eq_zero_iff {x : Sr (Fin p.nparams) K p.d} :
    p.SelS x = 0 ↔ ∀ m (a b : Fin p.d), p.keptE a.val b.val = true → coeff m x a b = 0 :=
  mask_kill_iff

theorem SelS_eq_self_iff {x : Sr (Fin p.nparams) K p.d} :
    p.SelS x = x ↔ ∀ m (a b : Fin p.d), p.keptE a.val b.val = false → coeff m x a b = 0 :=
  mask_fix_iff

def dgP (a b : Fin p.d) : Bool := p.blk a.val == p.blk b.val
def upP (a b : Fin p.d) : Bool := decide (p.blk a.val < p.blk b.val)
def loP (a b : Fin p.d) : Bool := decide (p.blk a.val > p.blk b.val)

noncomputable def DgS : Sr (Fin p.nparams) K p.d →+ Sr (Fin p.nparams) K p.d := coeffwise (maskMap p.dgP)
noncomputable def UpS : Sr (Fin p.nparams) K p.d →+ Sr (Fin p.nparams) K p.d := coeffwise (maskMap p.upP)
noncomputable def LoS : Sr (Fin p.nparams) K p.d →+ Sr (Fin p.nparams) K p.d := coeffwise (maskMap p.loP)

theorem coeff_UpS (x : Sr (Fin p.nparams) K p.d) (m : Fin p.nparams →₀ ℕ) (a b : Fin p.d) :
    coeff m (p.UpS x) a b = if p.blk a.val < p.blk b.val then coeff m x a b else 0 := by
  rw [UpS, coeff_coeffwise, maskMap_apply, upP]; simp

theorem coeff_LoS (x : Sr (Fin p.nparams) K p.d) (m : Fin p.nparams →₀ ℕ) (a b : Fin p.d) :
    coeff m (p.LoS x) a b = if p.blk a.val > p.blk b.val then coeff m x a b else 0 := by
  rw [LoS, coeff_coeffwise, maskMap_apply, loP]; simp

theorem split_blocks (x : Sr (Fin p.nparams) K p.d) : p.DgS x + p.UpS x + p.LoS x = x := by
  ext m a b
  simp only [map_add, Matrix.add_apply, DgS, UpS, LoS, coeff_coeffwise, maskMap_apply, dgP, upP, loP]
  rcases Nat.lt_trichotomy (p.blk a.val) (p.blk b.val) with h | h | h
  · simp [h, Nat.ne_of_lt h, Nat.lt_asymm h]
  · simp [h]
  · simp [h, Nat.ne_of_gt h, Nat.lt_asymm h]

theorem DgS_star (x : Sr (Fin p.nparams) K p.d) : star (p.DgS x) = p.DgS (star x) :=
  p.star_coeffwise_swap p.dgP p.dgP (by intro a b; simp [dgP, eq_comm]) x

theorem UpS_star (x : Sr (Fin p.nparams) K p.d) : star (p.UpS x) = p.LoS (star x) :=
  p.star_coeffwise_swap p.upP p.loP (by intro a b; simp [upP, loP]) x

theorem LoS_star (x : Sr (Fin p.nparams) K p.d) : star (p.LoS x) = p.UpS (star x) :=
  p.star_coeffwise_swap p.loP p.upP (by intro a b; simp [upP, loP]) x

theorem star_C (M : Mt K p.d) : star (C M : Sr (Fin p.nparams) K p.d) = C (star M) := by
  ext m : 1
  rw [coeff_star, coeff_C, coeff_C, apply_ite star, star_zero]

def H0mat : Mt K p.d := Matrix.diagonal fun a => p.energy a.val
noncomputable def H0s : Sr (Fin p.nparams) K p.d := C p.H0mat

theorem coeff_H0s_mul (x : Sr (Fin p.nparams) K p.d) (m : Fin p.nparams →₀ ℕ) (a b : Fin p.d) :
    coeff m (p.H0s * x) a b = p.energy a.val * coeff m x a b := by
  rw [H0s, coeff_C_mul, H0mat, Matrix.diagonal_mul]

theorem coeff_mul_H0s (x : Sr (Fin p.nparams) K p.d) (m : Fin p.nparams →₀ ℕ) (a b : Fin p.d) :
    coeff m (x * p.H0s) a b = coeff m x a b * p.energy b.val := by
  rw [H0s, coeff_mul_C, H0mat, Matrix.mul_diagonal]

theorem H0comm (x : Sr (Fin p.nparams) K p.d) :
    p.SelS (p.H0s * x - x * p.H0s) = p.H0s * p.SelS x - p.SelS x * p.H0s := by
  ext m a b
  simp only [coeff_SelS, coeff_sub_apply, coeff_H0s_mul, coeff_mul_H0s]
  by_cases hk : p.keptE a.val b.val = true <;> simp [hk]

theorem H0s_sel (hd : ∀ a : Fin p.d, p.keptE a.val a.val = true) : p.SelS p.H0s = p.H0s := by
  rw [SelS_eq_self_iff]
  intro m a b hk
  have hab : a ≠ b := fun e => by rw [e, hd] at hk; cases hk
  rw [H0s, coeff_C]
  split
  · exact Matrix.diagonal_apply_ne _ hab
  · rfl

structure Sym : Prop where
  elim_symm : ∀ a b : Fin p.d, p.blk a.val = p.blk b.val → p.elimIn a.val b.val = p.elimIn b.val a.val
  energy_real : ∀ a : Fin p.d, star (p.energy a.val) = p.energy a.val
  absGt_neg : ∀ x : K, Thresholds.absGt (-x) p.atol = Thresholds.absGt x p.atol

section sym
variable (Y : p.Sym)
include Y

theorem keptE_symm (a b : Fin p.d) : p.keptE a.val b.val = p.keptE b.val a.val := by
  simp only [keptE]
  by_cases h : p.blk a.val = p.blk b.val
  · rw [Y.elim_symm a b h, h]
  · have h' : ¬ p.blk b = p.blk a := fun e => h e.symm
    have e1 : (p.blk a == p.blk b) = false := by simpa using h
    have e2 : (p.blk b == p.blk a) = false := by simpa using h'
    rw [e1, e2, Bool.false_and, Bool.false_and]

theorem star_callE (a b : Fin p.d) (x : K) :
    star (p.callE "solve_sylvester" b a x) = -p.callE "solve_sylvester" a b (star x) := by
  have hg : Scalar.absGt (p.energy b.val - p.energy a.val) p.atol
      = Scalar.absGt (p.energy a.val - p.energy b.val) p.atol := by
    rw [← neg_sub]; exact Y.absGt_neg _
  rw [callE_solve, callE_solve, hg, apply_ite star, star_mul', star_inv₀, star_sub, Y.energy_real, Y.energy_real,
    star_zero, ← neg_sub (p.energy a.val), inv_neg, mul_neg, apply_ite Neg.neg, neg_zero]

theorem SelS_star (x : Sr (Fin p.nparams) K p.d) : star (p.SelS x) = p.SelS (star x) :=
  p.star_coeffwise_swap p.kp p.kp (fun a b => p.keptE_symm Y a b) x

theorem H0s_star : star p.H0s = p.H0s := by
  rw [H0s, star_C, H0mat, Matrix.star_eq_conjTranspose, Matrix.diagonal_conjTranspose]
  congr; funext a; exact Y.energy_real a

end sym

theorem orderZero_toList (i j : Nat) (m : Fin p.nparams →₀ ℕ) :
    Idx.isOrderZero ⟨i, j, toList m⟩ = decide (m = 0) := by
  rw [Bool.eq_iff_iff, decide_eq_true_iff, Idx.isOrderZero, toList, List.all_eq_true, List.forall_mem_ofFn_iff,
    Finsupp.ext_iff]
  exact forall_congr' fun _ => beq_iff_eq

/-- what `Ready` and `Nh.Ready` ask, for the names `N` of any program; the series of the names in `Z` have
no constant term (`Runs.noConst`) -/
structure Runs (P : Prog) (N Z : List String) : Prop where
  wf : p.WF
  hN : ∀ a : Fin p.d, p.blk a.val < p.nblocks
  tot : ∀ x ∈ N, ∀ idx, ∃ v, Den P p.env x idx v
  table : P.tableOK N Z = true

section program
variable {p} {P : Prog} {N Z : List String} (hR : p.Runs P N Z)
include hR

theorem Runs.series {x : String} {d : SeriesDef} (hf : findSeries P x = some d) :
    (∀ idx, ∃ v, Den P p.env x idx v) ∧ x ≠ "H" ∧ ∀ y ∈ bodyRefs x d.body, y = "H" ∨ y ∈ Z := by
  obtain ⟨hd, rfl⟩ := findSeries_mem hf
  obtain ⟨hn, hr⟩ := (Prog.tableOK_iff.mp hR.table).1 d hd
  exact ⟨hR.tot _ hn.1, hn.2, hr⟩

theorem Runs.product {x : String} {ab : String × String} (hf : findProduct P x = some ab) :
    (∀ idx, ∃ v, Den P p.env x idx v) ∧ x ≠ "H" := by
  obtain ⟨hn, hH⟩ := (Prog.tableOK_iff.mp hR.table).2.1 x (findProduct_mem hf)
  exact ⟨hR.tot _ hn, hH⟩

theorem Ser_prod {x a b : String} (hf : findSeries P x = none ∧ findProduct P x = some (a, b)) :
    p.ser P a * p.ser P b = p.ser P x :=
  (Ser_product (p.envOK hR.wf) (p.envSem hR.wf) hR.hN p.nparams
    (kindOf_product (p.inputs_contains x (hR.product hf.2).2) hf.1 hf.2) (hR.product hf.2).1).symm

section series
variable {x : String} {d : SeriesDef} (hf : findSeries P x = some d)
include hf

theorem Ser_mem_F1 (hst : d.start = .zero) : p.ser P x ∈ p.F' 1 := by
  rw [mem_F1_iff]
  ext a b
  rw [p.ser_entry hR.wf (hR.series hf).1 (hR.series hf).2.1 hf, hst]
  simp [startVal, p.orderZero_toList, sem]

theorem coeff_Ser_pos {m : Fin p.nparams →₀ ℕ} (hm : m ≠ 0) (a b : Fin p.d) :
    coeff m (p.ser P x) a b = p.bodyE P x m a b d.body 0 := by
  rw [p.ser_entry hR.wf (hR.series hf).1 (hR.series hf).2.1 hf,
    startVal_of_pos (by simp [p.orderZero_toList, hm])]

theorem coeff_Ser_of_refs (hz : ∀ y ∈ bodyRefs x d.body, p.ser P y ∈ p.F' 1) (m : Fin p.nparams →₀ ℕ)
    (a b : Fin p.d) :
    coeff m (p.ser P x) a b = p.startE P m a b d.start + p.bodyE P x m a b d.body 0 := by
  by_cases hm : m = 0
  · subst hm
    rw [p.ser_entry hR.wf (hR.series hf).1 (hR.series hf).2.1 hf,
      p.bodyE_eq_acc P x a b fun y hy => mem_F1_iff.mp (hz y hy), add_zero]
    cases d.start with
    | none => simp [startVal, startE]
    | zero => simp [startVal, p.orderZero_toList, startE, sem]
    | one =>
      -- pinned on the diagonal blocks only; off them the body gives 0, which is the entry of the unit matrix
      by_cases hab : p.blk a.val = p.blk b.val
      · simp [startVal, p.orderZero_toList, startE, hab, sem, blockId, Matrix.one_apply, Matrix.diagonal_apply]
      · have hne : a ≠ b := fun e => hab (by rw [e])
        simp [startVal, p.orderZero_toList, startE, hab, hne]
    | input h =>
      simp only [startVal, p.orderZero_toList, startE, decide_true, ↓reduceIte, coeff_zero_C]
      exact (p.den_H P).G_eq.symm
  · rw [coeff_Ser_pos hR hf hm]
    cases d.start <;> simp [startE, hm, coeff_one, coeff_C]

end series

theorem Runs.noConst : ∀ z ∈ Z, p.ser P z ∈ p.F' 1 := by
  have key : ∀ Z' : List String, (∀ y ∈ Z', p.ser P y ∈ p.F' 1) → ∀ x, P.noConstBy Z' x = true →
      p.ser P x ∈ p.F' 1 := by
    intro Z' ih x hx
    unfold Prog.noConstBy at hx
    split at hx
    · rename_i d hf
      simp only [Bool.or_eq_true, Bool.and_eq_true, beq_iff_eq, List.all_eq_true, List.contains_iff_mem] at hx
      rcases hx with hst | ⟨hst, hrefs⟩
      · exact Ser_mem_F1 hR hf hst
      · rw [mem_F1_iff]
        ext a b
        have hz := fun y hy => ih y (hrefs y hy)
        rw [coeff_Ser_of_refs hR hf hz, p.bodyE_eq_acc P x a b fun y hy => mem_F1_iff.mp (hz y hy), hst]
        exact add_zero _
    · rename_i a b hs hf
      rw [← Ser_prod hR ⟨hs, hf⟩]
      exact FDeg_mul (ih a (by simpa using hx)) (FDeg_top _)
    · cases hx
  have hZ := (Prog.tableOK_iff.mp hR.table).2.2
  clear hR
  induction Z with
  | nil => intro z hz; cases hz
  | cons x Z' ih =>
    simp only [Prog.noConst, Bool.and_eq_true] at hZ
    intro z hz
    rcases List.mem_cons.mp hz with rfl | hz
    · exact key Z' (ih hZ.2) _ hZ.1
    · exact ih hZ.2 z hz

theorem coeff_Ser {x : String} {d : SeriesDef} (hf : findSeries P x = some d)
    (hH : "H" ∉ bodyRefs x d.body := by decide) (m : Fin p.nparams →₀ ℕ) (a b : Fin p.d) :
    coeff m (p.ser P x) a b = p.startE P m a b d.start + p.bodyE P x m a b d.body 0 :=
  coeff_Ser_of_refs hR hf (fun y hy =>
    hR.noConst y (((hR.series hf).2.2 y hy).resolve_left fun e => hH (e ▸ hy))) m a b

/-- the shape of the two returned transformations -/
theorem Ser_one_add {x y : String}
    (hf : findSeries P x = some { name := x, start := .one, body := [.clause .default (.ser y)] })
    (hy : y ≠ "H" := by decide) : p.ser P x = 1 + p.ser P y := by
  ext m a b
  rw [coeff_Ser hR hf (by simpa [bodyRefs, Expr.refs] using hy.symm), coeff_add_apply]
  simp only [startE, bodyE, exprE, zero_add]

end program

section pert
variable {p} {P : Prog} {N Z : List String} (hR : p.Runs P N Z) {h : String}

theorem coeff_pert (x : Sr (Fin p.nparams) K p.d) (m : Fin p.nparams →₀ ℕ) :
    coeff m (x - C (coeff 0 x)) = if m = 0 then 0 else coeff m x := by
  rw [map_sub, coeff_C]
  by_cases hm : m = 0
  · rw [if_pos hm, if_pos hm, hm, sub_self]
  · rw [if_neg hm, if_neg hm, sub_zero]

theorem pert_star (hh : star (p.ser P h) = p.ser P h) :
    star (p.ser P h - C (coeff 0 (p.ser P h))) = p.ser P h - C (coeff 0 (p.ser P h)) := by
  rw [star_sub, star_C, ← coeff_star, hh]

include hR

section diag
variable {x : String}
  (hf : findSeries P x = some { name := x, start := .zero, body := [.clause .diagonal (.ser h)] })
include hf

/-- `H'_diag` -/
theorem Ser_diag_input : p.ser P x = p.SelS (p.ser P h - C (coeff 0 (p.ser P h))) := by
  ext m a b
  rw [coeff_SelS, coeff_pert]
  by_cases hm : m = 0
  · rw [hm, mem_F1_iff.mp (Ser_mem_F1 hR hf rfl), if_pos rfl, Matrix.zero_apply, ite_self]
  · rw [coeff_Ser_pos hR hf hm, if_neg hm]
    simp only [bodyE, exprE, zero_add]

theorem Ser_diag_sel : p.SelS (p.ser P x) = p.ser P x := by rw [Ser_diag_input hR hf, SelS_idem]

theorem Ser_diag_star (Y : p.Sym) (hh : star (p.ser P h) = p.ser P h) : star (p.ser P x) = p.ser P x := by
  rw [Ser_diag_input hR hf, p.SelS_star Y, pert_star hh]

end diag

section offdiag
variable {x : String}
  (hf : findSeries P x = some { name := x, start := .zero, body := [.clause .offdiagonal (.ser h)] })
include hf

/-- `H'_offdiag` -/
theorem Ser_offdiag_input : p.ser P x = (p.ser P h - C (coeff 0 (p.ser P h))) - p.SelS (p.ser P h - C (coeff 0 (p.ser P h))) := by
  ext m a b
  rw [coeff_sub_apply, coeff_SelS, coeff_pert]
  by_cases hm : m = 0
  · rw [hm, mem_F1_iff.mp (Ser_mem_F1 hR hf rfl), if_pos rfl, Matrix.zero_apply, ite_self, sub_zero]
  · rw [coeff_Ser_pos hR hf hm, if_neg hm]
    simp only [bodyE, exprE, zero_add]
    cases p.keptE a.val b.val <;> simp only [Bool.false_eq_true, ↓reduceIte, sub_zero, sub_self]

theorem Ser_offdiag_sel : p.SelS (p.ser P x) = 0 := by
  rw [Ser_offdiag_input hR hf, map_sub, SelS_idem, sub_self]

theorem Ser_offdiag_star (Y : p.Sym) (hh : star (p.ser P h) = p.ser P h) : star (p.ser P x) = p.ser P x := by
  rw [Ser_offdiag_input hR hf, star_sub, p.SelS_star Y, pert_star hh]

end offdiag

section H0
variable (h0 : G p.blocks P p.env "H" (toList (0 : Fin p.nparams →₀ ℕ)) = p.H0mat)
include h0

omit hR in
theorem C_coeff_zero : C (coeff 0 (p.ser P "H")) = p.H0s := by rw [H0s, ← h0]; rfl

theorem Ser_input_split {xd xo : String}
    (hd : findSeries P xd = some { name := xd, start := .zero, body := [.clause .diagonal (.ser "H")] })
    (ho : findSeries P xo = some { name := xo, start := .zero, body := [.clause .offdiagonal (.ser "H")] }) :
    p.ser P "H" = p.H0s + p.ser P xd + p.ser P xo := by
  rw [Ser_diag_input hR hd, Ser_offdiag_input hR ho, C_coeff_zero h0]; abel

/-- the shape of `H_tilde` -/
theorem Ser_input_sel {x : String} {e : Expr}
    (hf : findSeries P x = some { name := x, start := .input "H", body := [.clause .diagonal e] })
    (hd : ∀ a : Fin p.d, p.keptE a.val a.val = true) (hH : "H" ∉ e.refs := by decide) : p.SelS (p.ser P x) = p.ser P x := by
  rw [SelS_eq_self_iff]
  intro m a b hk
  rw [coeff_Ser hR hf (by simpa [bodyRefs] using hH), startE, C_coeff_zero h0,
    p.SelS_eq_self_iff.mp (p.H0s_sel hd) m a b hk]
  simp [bodyE, hk]

end H0

end pert

end Problem
end BlockDiag
end Pyma
