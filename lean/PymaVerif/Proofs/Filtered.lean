/-
Separated multiplicative filtrations on a ring and the contraction lemma, with the forms in which it
is used: `1 + a` is regular for `a ∈ F 1`, a left inverse of `1 + a` is a right inverse, `2 d = −D (a d + d b)`
for an order-preserving `D` forces `d = 0`, and so does the Sylvester-type equation `(1 + a) d + d (1 + b) = 0`.
-/
import Mathlib.Tactic.NoncommRing
import Mathlib.Algebra.Star.Basic
import Mathlib.Algebra.Group.Subgroup.Basic

namespace Pyma

section ring
variable {S : Type*} [Ring S]

theorem mul_sub_mul (a b a' b' : S) : a * b - a' * b' = (a - a') * b + a' * (b - b') := by
  rw [sub_mul, mul_sub]; abel

theorem conj_eq {g p : S} (hu : (1 + g) * (1 + p) = 1) (h : S) :
    (1 + g) * h * (1 + p) = h + (1 + g) * (h * p - p * h) := by
  have e : h * (1 + p) = (1 + p) * h + (h * p - p * h) := by
    rw [mul_add, add_mul, mul_one, one_mul]; abel
  rw [mul_assoc, e, mul_add, ← mul_assoc, hu, one_mul]

/-- "`a` is `-b` outside the range of `f`" says that `a + b` is in it -/
theorem map_add_eq_self {f : S →+ S} {a b : S} (h : a - f a = -b - f (-b)) : f (a + b) = a + b := by
  rw [map_neg, sub_neg_eq_add] at h
  calc f (a + b) = a + b - ((a - f a) - (-b + f b)) := by rw [map_add]; abel
    _ = a + b := by rw [h, sub_self, sub_zero]

theorem one_add_mul_one_add {w v : S} (e : 2 * w = -((w - v) * (w + v))) : (1 + (w - v)) * (1 + (w + v)) = 1 := by
  have : (w - v) + (w + v) + (w - v) * (w + v) = 0 := by
    rw [← neg_eq_iff_eq_neg.mpr e, two_mul]; abel
  calc (1 + (w - v)) * (1 + (w + v)) = 1 + ((w - v) + (w + v) + (w - v) * (w + v)) := by
        rw [mul_add, mul_one, add_mul, one_mul]; abel
    _ = 1 := by rw [this, add_zero]

theorem star_two_mul [StarRing S] (x : S) : star (2 * x) = 2 * star x := by
  rw [two_mul, two_mul, star_add]

end ring

structure Filtration (S : Type*) [Ring S] where
  F : ℕ → AddSubgroup S
  top : ∀ x, x ∈ F 0
  mul_mem : ∀ {j k x y}, x ∈ F j → y ∈ F k → x * y ∈ F (j+k)
  sep : ∀ x, (∀ k, x ∈ F k) → x = 0
  anti : ∀ k, F (k+1) ≤ F k

namespace Filtration
variable {S : Type*} [Ring S] (Φ : Filtration S)
theorem eq_zero_of_contract {d : S} (h : ∀ k, d ∈ Φ.F k → d ∈ Φ.F (k+1)) : d = 0 := by
  apply Φ.sep; intro k
  induction k with
  | zero => exact Φ.top d
  | succ k ih => exact h k ih
theorem mul_left_mem {a x : S} {k : ℕ} (ha : a ∈ Φ.F 1) (hx : x ∈ Φ.F k) : a * x ∈ Φ.F (k+1) := by
  have := Φ.mul_mem ha hx; rwa [Nat.add_comm] at this
theorem mul_right_mem {a x : S} {k : ℕ} (hx : x ∈ Φ.F k) (ha : a ∈ Φ.F 1) : x * a ∈ Φ.F (k+1) :=
  Φ.mul_mem hx ha
theorem mul_any_left {c x : S} {k : ℕ} (hx : x ∈ Φ.F k) : c * x ∈ Φ.F k := by
  have := Φ.mul_mem (Φ.top c) hx; rwa [Nat.zero_add] at this
theorem mul_any_right {c x : S} {k : ℕ} (hx : x ∈ Φ.F k) : x * c ∈ Φ.F k :=
  Φ.mul_mem hx (Φ.top c)

theorem eq_zero_of_one_add_mul {a d : S} (ha : a ∈ Φ.F 1) (h : (1 + a) * d = 0) : d = 0 := by
  have e : d = -(a * d) := by
    rw [add_mul, one_mul] at h; exact eq_neg_of_add_eq_zero_left h
  apply Φ.eq_zero_of_contract
  intro k hk
  rw [e]; exact neg_mem (Φ.mul_left_mem ha hk)

theorem mul_eq_one_comm {a b : S} (ha : a ∈ Φ.F 1) (h : (1 + a) * (1 + b) = 1) :
    (1 + b) * (1 + a) = 1 := by
  apply sub_eq_zero.mp
  apply Φ.eq_zero_of_one_add_mul ha
  rw [mul_sub, ← mul_assoc, h, one_mul, mul_one, sub_self]

variable (two_mem : ∀ k (x : S), 2 * x ∈ Φ.F k → x ∈ Φ.F k)
include two_mem

/-- the contraction behind every "is Hermitian / commutes" step: `D` is any order-preserving map -/
theorem eq_zero_of_two_mul (D : S → S) (hD : ∀ k x, x ∈ Φ.F k → D x ∈ Φ.F k) {a b d : S}
    (ha : a ∈ Φ.F 1) (hb : b ∈ Φ.F 1) (h : 2 * d = -D (a * d + d * b)) : d = 0 := by
  apply Φ.eq_zero_of_contract
  intro k hk
  apply two_mem
  rw [h]
  exact neg_mem (hD _ _ (add_mem (Φ.mul_left_mem ha hk) (Φ.mul_right_mem hk hb)))

theorem eq_zero_of_sylvester {a b d : S} (ha : a ∈ Φ.F 1) (hb : b ∈ Φ.F 1)
    (h : (1 + a) * d + d * (1 + b) = 0) : d = 0 := by
  apply Φ.eq_zero_of_two_mul two_mem id (fun _ _ hx => hx) ha hb
  rw [id, two_mul]
  apply eq_neg_of_add_eq_zero_left
  rw [← h, add_mul, mul_add, one_mul, mul_one]; abel

end Filtration

end Pyma
