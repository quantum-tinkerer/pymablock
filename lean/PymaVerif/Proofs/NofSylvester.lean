/-
C16 (second-quantised solver) as a corollary of `rep_mul3`: dividing every monomial of `Y` by the
energy difference between the state it reaches and the state it starts from solves
`H_ii · X − X · H_jj = Y` for number-conserving (diagonal) `H_ii`, `H_jj` — on all physical states, as
kernels.  This is the model of `second_quantization.solve_scalar`.
-/
import PymaVerif.Proofs.NofAssoc

namespace Pyma
namespace Nof

/-- occupation seen by `H_ii` (after the creators) and by `H_jj` (before the annihilators), as
`solve_scalar` substitutes them into the coefficient: `N ± δ` on boson/ladder modes, `1` on finite ones -/
def upOcc (c : Ctx) (t : Term) (N : Occ) : Occ :=
  (List.range N.length).map fun j =>
    if pw t j < 0 then (if c.isInf j then Occ.get N j - pw t j else 1) else Occ.get N j
def dnOcc (c : Ctx) (t : Term) (N : Occ) : Occ :=
  (List.range N.length).map fun j =>
    if pw t j > 0 then (if c.isInf j then Occ.get N j + pw t j else 1) else Occ.get N j

/-- `_cancel_binary_operator_numbers`: `n_f ↦ 0` whenever the term carries `f` or `f†` -/
def canonOcc (c : Ctx) (t : Term) (N : Occ) : Occ :=
  (List.range N.length).map fun j => if c.isInf j = false ∧ pw t j ≠ 0 then 0 else Occ.get N j

/-- `solve_scalar` on one monomial -/
def solveTerm (c : Ctx) (hi hj : Occ → GRat) (t : Term) : Term :=
  { t with coeff := fun N =>
      t.coeff (canonOcc c t N) / (hi (upOcc c t (canonOcc c t N)) - hj (dnOcc c t (canonOcc c t N))) }

def solveScalar (c : Ctx) (hi hj : Occ → GRat) (Y : Form) : Form := Y.map (solveTerm c hi hj)

theorem canonOcc_set {c : Ctx} (t : Term) {j : Nat} (N : Occ) (v : Int) (hfin : c.isInf j = false)
    (hp : pw t j ≠ 0) : canonOcc c t (Occ.set N j v) = canonOcc c t N := by
  refine occ_ext (n := N.length) (by simp [canonOcc]) (by simp [canonOcc]) fun k hk => ?_
  rw [canonOcc, get_mapRange _ (by simpa using hk), canonOcc, get_mapRange _ hk]
  by_cases hkj : k = j
  · subst hkj; simp [hfin, hp]
  · rw [get_set_ne hkj]

theorem wft_solveTerm {c : Ctx} (hi hj : Occ → GRat) {t : Term} (h : WFT c t) : WFT c (solveTerm c hi hj t) := by
  refine ⟨h.len, h.fin, ?_⟩
  intro j hj' hfin hp N v _
  show t.coeff (canonOcc c t (Occ.set N j v)) / _ = t.coeff (canonOcc c t N) / _
  rw [canonOcc_set t N v hfin hp]

theorem wf2_solveScalar (c : Ctx) (hi hj : Occ → GRat) (Y : Form) (h : WF2 c Y) : WF2 c (solveScalar c hi hj Y) := by
  intro t' ht'
  obtain ⟨t, ht, rfl⟩ := List.mem_map.mp ht'
  exact wft_solveTerm hi hj (h t ht)

theorem occ_on_support {c : Ctx} {t : Term} {s : Occ} (hs : Valid c s) (hw : WFT c t)
    (hz : annAmp c t s ≠ 0) :
    canonOcc c t (mid t s) = mid t s ∧ upOcc c t (mid t s) = tgt t s ∧ dnOcc c t (mid t s) = s := by
  have hsupp := supp_of_annAmp_ne_zero hs hw.fin hz
  have hml : (mid t s).length = c.n := (length_mid t s).trans hs.len
  refine ⟨?_, ?_, ?_⟩
  · refine occ_ext (by simp [canonOcc, hs.len]) hml fun j hjn => ?_
    rw [canonOcc, get_mapRange _ (hml ▸ hjn)]
    by_cases hc : c.isInf j = false ∧ pw t j ≠ 0
    · rw [if_pos hc, get_mid hjn hs.len]
      rcases hw.fin j hjn hc.1 with e | e | e
      · rw [e, (hsupp j hjn hc.1).2.1 e]; norm_num
      · exact absurd e hc.2
      · rw [e, (hsupp j hjn hc.1).1 e]; norm_num
    · rw [if_neg hc]
  · refine occ_ext (by simp [upOcc, hs.len]) ((length_tgt t s).trans hs.len) fun j hjn => ?_
    rw [upOcc, get_mapRange _ (hml ▸ hjn), get_mid hjn hs.len, get_tgt hjn hs.len]
    by_cases hp : pw t j < 0
    · rw [if_pos hp]
      cases hinf : c.isInf j
      · simp only [Bool.false_eq_true, ↓reduceIte]
        rcases hw.fin j hjn hinf with e | e | e
        · rw [e, (hsupp j hjn hinf).2.1 e]; norm_num
        · omega
        · omega
      · simp only [↓reduceIte]
        have : max (pw t j) 0 = 0 := by omega
        rw [this]; ring
    · rw [if_neg hp]
      have : max (pw t j) 0 = pw t j := by omega
      rw [this]
  · refine occ_ext (by simp [dnOcc, hs.len]) hs.len fun j hjn => ?_
    rw [dnOcc, get_mapRange _ (hml ▸ hjn), get_mid hjn hs.len]
    by_cases hp : pw t j > 0
    · rw [if_pos hp]
      cases hinf : c.isInf j
      · simp only [Bool.false_eq_true, ↓reduceIte]
        rcases hw.fin j hjn hinf with e | e | e
        · omega
        · omega
        · exact ((hsupp j hjn hinf).1 e).symm
      · simp only [↓reduceIte]
        have : max (pw t j) 0 = pw t j := by omega
        rw [this]; ring
    · rw [if_neg hp]
      have : max (pw t j) 0 = 0 := by omega
      rw [this]; ring

/-- `solve_scalar` divides the amplitude of a monomial by the energy difference it connects; off the support of the
monomial, where `upOcc` and `dnOcc` need not be its target and source, both sides vanish -/
theorem specAmpS_solveTerm {c : Ctx} (hi hj : Occ → GRat) {t : Term} {s : Occ} (hs : Valid c s) (hw : WFT c t) :
    specAmpS c (solveTerm c hi hj t) s = (hi (tgt t s) - hj s)⁻¹ * specAmpS c t s := by
  show ofInt (sgn c t s) * (ofInt (annAmp c t s) * (t.coeff (canonOcc c t (mid t s))
      / (hi (upOcc c t (canonOcc c t (mid t s))) - hj (dnOcc c t (canonOcc c t (mid t s))))))
    = _ * (ofInt (sgn c t s) * (ofInt (annAmp c t s) * t.coeff (mid t s)))
  by_cases hz : annAmp c t s = 0
  · rw [hz, ofInt_zero]; simp
  · obtain ⟨e1, e2, e3⟩ := occ_on_support hs hw hz
    rw [e1, e2, e3, div_eq_inv_mul]
    ring

theorem ampF'_solveScalar {c : Ctx} (hi hj : Occ → GRat) {Y : Form} {s : Occ} (s'' : Occ) (hY : WF2 c Y) (hs : Valid c s) :
    ampF' c (solveScalar c hi hj Y) s s'' = (hi s'' - hj s)⁻¹ * ampF' c Y s s'' := by
  refine ampF'_map fun t ht => ?_
  rw [ampS'_eq, ampS'_eq, show tgt (solveTerm c hi hj t) s = tgt t s from rfl]
  split
  next e => rw [specAmpS_solveTerm hi hj hs (hY t ht), e]
  next => rw [mul_zero]

/-- **C16, second-quantised solver**: `H_ii · X − X · H_jj = Y` for `X = solve_scalar(Y)`, as kernels on
physical states, wherever the energy denominators that occur do not vanish -/
theorem solveScalar_spec (c : Ctx) (hlast : FermionsLast c) (hi hj : Occ → GRat) (Y : Form) (hY : WF2 c Y)
    (s s'' : Occ) (hs : Valid c s)
    (hden : ∀ t ∈ Y, annAmp c t s ≠ 0 → hi (tgt t s) - hj s ≠ 0) :
    ampF' c (mul c (numberForm c hi) (solveScalar c hi hj Y)) s s''
      - ampF' c (mul c (solveScalar c hi hj Y) (numberForm c hj)) s s''
      = ampF' c Y s s'' := by
  have hX := wf2_solveScalar c hi hj Y hY
  rw [ampF'_numberForm_mul hlast hi s'' hX hs, ampF'_mul_numberForm hlast hj s'' hX hs, ← sub_mul,
    ampF'_solveScalar hi hj s'' hY hs]
  by_cases hd : hi s'' - hj s = 0
  · -- no monomial reaches `s''` from `s` with a vanishing denominator
    rw [ampF'_eq_zero_of_unreached fun t ht hz e => hden t ht hz (e ▸ hd), mul_zero, mul_zero]
  · rw [mul_inv_cancel_left₀ hd]

end Nof
end Pyma
#print axioms Pyma.Nof.solveScalar_spec
