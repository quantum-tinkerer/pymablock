/-
Kernel-evaluated sanity check of the evaluator of compiled bodies: on a concrete problem the
compiled bodies of `main` and its clause lists give the same elements.  (A test, labelled as a test.)
-/
import PymaVerif.Model.CBody
import PymaVerif.Proofs.DslSound
import PymaVerif.Proofs.WitnessProblems
import PymaVerif.Model.Generated.Algorithms

namespace Pyma
namespace Dsl
variable {K : Type} [Scalar K]

/-- like `compute`, but series are evaluated through their compiled bodies -/
def computeC (p : Prog) (env : Env K) (lookup : Lookup K) (x : String) (idx : Idx) (c : Cache K) : Res K (SVal K) :=
  match kindOf p env x with
  | .input => .ok (env.input x idx, c)
  | .series d =>
      match startVal env d.start idx with
      | some v => .ok (v, c)
      | none => evalCStmts env lookup idx (compileSeries d) .zero c
  | .product a b => evalPairs lookup a b idx (pairsOf env.nblocks idx.n) .zero c
  | .unknown => .error (.unknown x)

def evalNCc (p : Prog) (env : Env K) : Nat → Lookup K
  | 0, _, _, _ => .error .fuel
  | fuel+1, x, idx, c => computeC p env (evalNCc p env fuel) x idx c

end Dsl

namespace BlockDiag
open Dsl Generated
namespace Problem
attribute [local instance] Scalar.ofField

def entryOf (r : Res ℚ (SVal ℚ)) (a b : Nat) : Option ℚ :=
  match r with
  | .ok (.zero, _) => some 0
  | .ok (.one, _) => some (if a == b then 1 else 0)
  | .ok (.val m, _) => some (m.get a b)
  | .error _ => none

def w3entry (x : String) (n a b : Nat) : Option ℚ :=
  entryOf (evalNC main w3.env 40 x ⟨w3.blk a, w3.blk b, [n]⟩ ∅) a b
def w3entryC (x : String) (n a b : Nat) : Option ℚ :=
  entryOf (evalNCc main w3.env 40 x ⟨w3.blk a, w3.blk b, [n]⟩ ∅) a b

def w3agree : Bool :=
  ["H_tilde", "U", "U†"].all fun x => (List.range 3).all fun n => (List.range 3).all fun a => (List.range 3).all fun b =>
    w3entry x n a b == w3entryC x n a b && (w3entry x n a b).isSome

theorem w3_compiled_agrees : w3agree = true := by decide +kernel

end Problem
end BlockDiag
end Pyma
