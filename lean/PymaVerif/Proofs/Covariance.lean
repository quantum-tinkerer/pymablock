/-
C13/C15 through uniqueness (C03).  A star-preserving ring homomorphism `T` between the series rings of two accepted problems that respects the degree
filtration, commutes with the kept-part projections and maps the Hamiltonian of the first to that of the second (up to a central kept shift) maps the
computed `U' = U − 1` of the first to that of the second (`transport_sr`): `T = id` gives C15, `T` acting on the orders only (`OrderMaps.lean`) C13.
Scaling the whole Hamiltonian is not a ring map and is checked on the defining equations (`Sol.scale`).
-/
import PymaVerif.Proofs.MainUnique
import PymaVerif.Proofs.OrderMaps

namespace Pyma

namespace TheoremU
variable {S : Type*} [Ring S] [StarRing S]

theorem Sol.scale (c c' : Ctx S) (hΦ : c'.Φ = c.Φ) (hSel : c'.Sel = c.Sel) (z : S) (hz : ∀ y, z * y = y * z)
    (hzsel : ∀ x, c.Sel (z * x) = z * c.Sel x) (hham : c'.H0 + c'.H' = z * (c.H0 + c.H')) {P : S} (h : Sol c P) : Sol c' P := by
  refine ⟨by rw [hΦ]; exact h.mem, h.unit, by rw [hSel]; exact h.gauge, ?_⟩
  rw [hSel, hham]
  have e : (1 + star P) * (z * (c.H0 + c.H')) * (1 + P) = z * ((1 + star P) * (c.H0 + c.H') * (1 + P)) := by
    calc (1 + star P) * (z * (c.H0 + c.H')) * (1 + P) = ((1 + star P) * z) * (c.H0 + c.H') * (1 + P) := by rw [← mul_assoc (1 + star P) z]
      _ = (z * (1 + star P)) * (c.H0 + c.H') * (1 + P) := by rw [hz]
      _ = _ := by rw [mul_assoc z, mul_assoc z]
  rw [e, hzsel, ← mul_sub, h.elim, mul_zero]

end TheoremU

namespace BlockDiag
open MvPowerSeries
namespace Problem

variable {K : Type} [Field K] [StarRing K] [DecidableEq K] [Thresholds K]

theorem transport_sr [LawfulThresholds K] {p q : Problem K} (hp : p.Accepted) (hq : q.Accepted) (h2 : (2 : K) ≠ 0)
    (T : Sr (Fin p.nparams) K p.d →+* Sr (Fin q.nparams) K q.d) (z : Sr (Fin q.nparams) K q.d)
    (hstar : ∀ x, T (star x) = star (T x))
    (hmem : ∀ k x, x ∈ FDeg (Fin p.nparams) (Mt K p.d) k → T x ∈ FDeg (Fin q.nparams) (Mt K q.d) k)
    (hsel : ∀ x, T (p.SelS x) = q.SelS (T x))
    (hH : T (p.sr "H") = q.sr "H" + z) (hz : ∀ y, z * y = y * z) (hzsel : q.SelS z = z) :
    T (p.sr "U'") = q.sr "U'" := by
  refine TheoremU.transport (c := p.ctx hp.ready hp.acc h2) (q.ctx hq.ready hq.acc h2) ⟨hstar, hmem, hsel, ?_, hz, hzsel⟩
    (p.sol_main hp.ready hp.sym hp.acc h2) (q.sol_main hq.ready hq.sym hq.acc h2)
  rw [ctx_ham, ctx_ham]
  exact hH

section scalar
variable (p : Problem K)

noncomputable def scalarS (c : K) : Sr (Fin p.nparams) K p.d := C (c • (1 : Mt K p.d))

omit [StarRing K] [DecidableEq K] [Thresholds K] in
theorem scalarS_central (c : K) (y : Sr (Fin p.nparams) K p.d) : p.scalarS c * y = y * p.scalarS c := by
  ext m : 1
  rw [scalarS, coeff_C_mul, coeff_mul_C, smul_mul_assoc, one_mul, mul_smul_comm, mul_one]

theorem scalarS_mul_SelS (c : K) (x : Sr (Fin p.nparams) K p.d) : p.SelS (p.scalarS c * x) = p.scalarS c * p.SelS x := by
  ext m : 1
  rw [SelS, coeff_coeffwise, scalarS, coeff_C_mul, coeff_C_mul, coeff_coeffwise, smul_one_mul, smul_one_mul, maskMap_smul]

theorem SelS_scalarS (hd : ∀ a : Fin p.d, p.keptE a.val a.val = true) (c : K) : p.SelS (p.scalarS c) = p.scalarS c := by
  refine p.SelS_eq_self_iff.mpr fun m a b hk => ?_
  have hab : a ≠ b := fun e => by rw [e, hd b] at hk; cases hk
  rw [scalarS, coeff_C]
  split
  · rw [Matrix.smul_apply, Matrix.one_apply_ne hab, smul_zero]
  · rfl

end scalar

section same
variable (p : Problem K) (ts : List (List Nat × Mat K)) (bo : Array Nat) (nb : Nat) (fd : FD) (at_ : Rat)

theorem SelS_reshape (hkept : ∀ a b : Fin p.d, (p.reshape ts bo nb fd at_).keptE a.val b.val = p.keptE a.val b.val) :
    (p.reshape ts bo nb fd at_).SelS = p.SelS := by
  have hkp : (p.reshape ts bo nb fd at_).kp = p.kp := funext₂ hkept
  unfold SelS
  rw [hkp]

/-- **C15 (same elimination pattern)**: `U` depends on the problem only through the Hamiltonian series (up to a multiple of the identity) and the
set of kept entries -/
theorem C15_same_pattern [LawfulThresholds K] (hp : p.Accepted) (hq : (p.reshape ts bo nb fd at_).Accepted) (h2 : (2 : K) ≠ 0)
    (c : K)
    (hkept : ∀ a b : Fin p.d, (p.reshape ts bo nb fd at_).keptE a.val b.val = p.keptE a.val b.val)
    (hH : p.sr "H" = (p.reshape ts bo nb fd at_).sr "H" + p.scalarS c) :
    p.sr "U'" = (p.reshape ts bo nb fd at_).sr "U'" :=
  transport_sr hp hq h2 (RingHom.id _) (p.scalarS c) (fun _ => rfl) (fun _ _ hx => hx)
    (fun x => by rw [p.SelS_reshape ts bo nb fd at_ hkept]; rfl) hH (p.scalarS_central c)
    ((p.reshape ts bo nb fd at_).SelS_scalarS hq.diag_kept c)

/-- **C15 (relabelling / regrouping blocks)**: the same Hamiltonian with other block labels but the same kept entries has the same `U` -/
theorem C15_relabel [LawfulThresholds K] (hp : p.Accepted) (hq : (p.reshape ts bo nb fd at_).Accepted) (h2 : (2 : K) ≠ 0)
    (hkept : ∀ a b : Fin p.d, (p.reshape ts bo nb fd at_).keptE a.val b.val = p.keptE a.val b.val)
    (hH : p.sr "H" = (p.reshape ts bo nb fd at_).sr "H") :
    p.sr "U'" = (p.reshape ts bo nb fd at_).sr "U'" := by
  apply p.C15_same_pattern ts bo nb fd at_ hp hq h2 0 hkept
  rw [hH]
  simp [scalarS]

/-- **C15 (scaling the whole Hamiltonian)**: `H ↦ s·H` leaves `U` unchanged (the tolerances of the second problem are its own) -/
theorem C15_scale_whole [LawfulThresholds K] (hp : p.Accepted) (hq : (p.reshape ts bo nb fd at_).Accepted) (h2 : (2 : K) ≠ 0)
    (s : K)
    (hkept : ∀ a b : Fin p.d, (p.reshape ts bo nb fd at_).keptE a.val b.val = p.keptE a.val b.val)
    (hH : (p.reshape ts bo nb fd at_).sr "H" = p.scalarS s * p.sr "H") :
    (p.reshape ts bo nb fd at_).sr "U'" = p.sr "U'" := by
  let q := p.reshape ts bo nb fd at_
  refine TheoremU.unique (q.ctx hq.ready hq.acc h2) (q.sol_main hq.ready hq.sym hq.acc h2)
    (TheoremU.Sol.scale (p.ctx hp.ready hp.acc h2) (q.ctx hq.ready hq.acc h2) rfl (p.SelS_reshape ts bo nb fd at_ hkept) (p.scalarS s)
      (p.scalarS_central s) (p.scalarS_mul_SelS s) ?_ (p.sol_main hp.ready hp.sym hp.acc h2))
  rw [ctx_ham, ctx_ham]
  exact hH

end same

section shift
variable (p : Problem K) (ts : List (List Nat × Mat K))

/-- **C15 (shift)**: `H ↦ H + c·1` leaves `U` unchanged -/
theorem C15_shift [LawfulThresholds K] (hp : p.Accepted) (hq : (p.withTerms ts).Accepted) (h2 : (2 : K) ≠ 0)
    (c : K) (hc : star c = c)
    (hkept : ∀ a b : Fin p.d, (p.withTerms ts).keptE a.val b.val = p.keptE a.val b.val)
    (hH : p.sr "H" = (p.withTerms ts).sr "H" + p.scalarS c) :
    p.sr "U'" = (p.withTerms ts).sr "U'" :=
  p.C15_same_pattern ts p.blockOf p.nblocks p.fd p.atol hp hq h2 c hkept hH

end shift

section orders
variable (p : Problem K) (k' : Nat) (ts : List (List Nat × Mat K))

/-- **C13, general form**: a ring map `T` that combines, with real weights, coefficients of no higher degree carries the transformation of the first
problem to that of the second when it carries the Hamiltonian -/
theorem C13_orders [LawfulThresholds K] (hp : p.Accepted) (hq : (p.reparam k' ts).Accepted) (h2 : (2 : K) ≠ 0)
    (T : Sr (Fin p.nparams) K p.d →+* Sr (Fin k') K p.d) {s : (Fin k' →₀ ℕ) → Finset (Fin p.nparams →₀ ℕ)}
    {w : (Fin p.nparams →₀ ℕ) → K}
    (hT : ∀ f n, coeff n (T f) = ∑ m ∈ s n, w m • coeff m f) (hw : ∀ m, star (w m) = w m)
    (hdeg : ∀ n, ∀ m ∈ s n, m.degree ≤ n.degree)
    (hkept : ∀ a b : Fin p.d, (p.reparam k' ts).keptE a.val b.val = p.keptE a.val b.val)
    (hH : (p.reparam k' ts).sr "H" = T (p.sr "H")) :
    (p.reparam k' ts).sr "U'" = T (p.sr "U'") := by
  have hkp : (p.reparam k' ts).kp = p.kp := funext₂ hkept
  refine (transport_sr hp hq h2 T 0 (orderMap_star hT hw) (orderMap_mem hT hdeg) (fun x => ?_) (by rw [add_zero, hH])
    (by simp) (map_zero _)).symm
  rw [SelS, SelS, hkp]
  exact orderMap_mask hT p.kp x

/-- **C13 (merging / fibred re-indexing)**: order `n` of the transformation of the pushed-forward problem is the sum of the orders `m` with `φ m = n`
of the first one's -/
theorem C13_fibred [LawfulThresholds K] (hp : p.Accepted) (hq : (p.reparam k' ts).Accepted) (h2 : (2 : K) ≠ 0)
    (R : Fibred (Fin p.nparams) (Fin k')) (hdeg : ∀ m, m.degree ≤ (R.φ m).degree)
    (hkept : ∀ a b : Fin p.d, (p.reparam k' ts).keptE a.val b.val = p.keptE a.val b.val)
    (hH : (p.reparam k' ts).sr "H" = R.pushS (p.sr "H")) :
    (p.reparam k' ts).sr "U'" = R.pushS (p.sr "U'") :=
  p.C13_orders k' ts hp hq h2 R.pushS R.push_sum (fun _ => star_one K) (fun n m hm => (R.spec n m).mp hm ▸ hdeg m) hkept hH

/-- **C13 (re-indexing of orders)**: order `φ m` of the transformation of the re-indexed problem is order `m` of the first one's, every order outside
the image of `φ` vanishes -/
theorem C13_reindex [LawfulThresholds K] (hp : p.Accepted) (hq : (p.reparam k' ts).Accepted) (h2 : (2 : K) ≠ 0)
    (R : Reindex (Fin p.nparams) (Fin k')) (hdeg : ∀ m, m.degree ≤ (R.φ m).degree)
    (hkept : ∀ a b : Fin p.d, (p.reparam k' ts).keptE a.val b.val = p.keptE a.val b.val)
    (hH : (p.reparam k' ts).sr "H" = R.pushS (p.sr "H")) :
    (p.reparam k' ts).sr "U'" = R.pushS (p.sr "U'") :=
  p.C13_orders k' ts hp hq h2 R.pushS R.push_sum (fun _ => star_one K) (fun n m hm => (R.mem_fib n m).mp hm ▸ hdeg m) hkept hH

end orders

section scale
variable (p : Problem K) (ts : List (List Nat × Mat K))

/-- **C13 (scale)**: `λ ↦ cλ` (`c` real) in the Hamiltonian is `λ ↦ cλ` in the transformation -/
theorem C13_scale [LawfulThresholds K] (hp : p.Accepted) (hq : (p.withTerms ts).Accepted) (h2 : (2 : K) ≠ 0)
    (c : K) (hc : star c = c)
    (hkept : ∀ a b : Fin p.d, (p.withTerms ts).keptE a.val b.val = p.keptE a.val b.val)
    (hH : (p.withTerms ts).sr "H" = rescaleS c (p.sr "H")) :
    (p.withTerms ts).sr "U'" = rescaleS c (p.sr "U'") :=
  p.C13_orders p.nparams ts hp hq h2 (rescaleS c) (rs_sum c) (fun m => by rw [star_pow, hc])
    (fun n m hm => by rw [Finset.mem_singleton.mp hm]) hkept hH

/-- **C13 (permute)**: relabelling the orders of the Hamiltonian by a degree-preserving additive equivalence of multi-orders (a permutation of the
perturbation parameters) relabels those of the transformation -/
theorem C13_permute [LawfulThresholds K] (hp : p.Accepted) (hq : (p.withTerms ts).Accepted) (h2 : (2 : K) ≠ 0)
    (E : (Fin p.nparams →₀ ℕ) ≃+ (Fin p.nparams →₀ ℕ)) (hdeg : ∀ m, (E m).degree = m.degree)
    (hkept : ∀ a b : Fin p.d, (p.withTerms ts).keptE a.val b.val = p.keptE a.val b.val)
    (hH : (p.withTerms ts).sr "H" = permS E (p.sr "H")) :
    (p.withTerms ts).sr "U'" = permS E (p.sr "U'") :=
  p.C13_orders p.nparams ts hp hq h2 (permS E) (ps_sum E) (fun _ => star_one K)
    (fun n m hm => by rw [Finset.mem_singleton.mp hm, hdeg]) hkept hH

end scale

end Problem
end BlockDiag
end Pyma
#print axioms Pyma.BlockDiag.Problem.C15_shift
#print axioms Pyma.BlockDiag.Problem.C13_scale
#print axioms Pyma.BlockDiag.Problem.C13_permute
#print axioms Pyma.BlockDiag.Problem.C15_relabel
#print axioms Pyma.BlockDiag.Problem.C15_scale_whole
#print axioms Pyma.BlockDiag.Problem.C13_reindex
#print axioms Pyma.BlockDiag.Problem.C13_fibred
