/-
`main` when `two_block_optimized` is set (two blocks, no `fully_diagonalize`): the hypotheses of `TheoremH2`
hold for the series the model computes (`hypH2`).  The grading is by block parity: kept = same block = even,
the rest odd.  `TheoremH2` returns the two equations the optimisation replaces, so the hypotheses of Theorem H
hold for `main` whatever the flag says (`hypH`): C01 and C02 for the model.
-/
import PymaVerif.Proofs.MainH
import PymaVerif.Proofs.CoreH2

namespace Pyma
namespace BlockDiag
open Dsl MvPowerSeries
namespace Problem

/-- `he`: `e` is the relation "same class" of a partition into two classes -/
theorem parity_mul {K : Type} [Field K] {d : Nat} {σ : Type} [DecidableEq σ] {e : Fin d → Fin d → Bool}
    (he : ∀ a b c, e a b = (e a c == e c b)) {x y : Sr σ K d} {s t : Bool}
    (hx : ∀ m a b, e a b = !s → coeff m x a b = 0) (hy : ∀ m a b, e a b = !t → coeff m y a b = 0)
    (m : σ →₀ ℕ) (a b : Fin d) (hab : e a b = !(s == t)) : coeff m (x * y) a b = 0 := by
  refine mul_entry_eq_zero fun c => ?_
  by_cases hac : e a c = !s
  · exact Or.inl fun q => hx q a c hac
  · refine Or.inr fun q => hy q c b ?_
    rw [he a b c] at hab
    revert hac hab
    cases e a c <;> cases e c b <;> cases s <;> cases t <;> simp

variable {K : Type} [Field K] [StarRing K] [DecidableEq K] [Thresholds K] (p : Problem K)

section optimised
variable (R : p.Ready) (hon : p.twoBlockOptimized = true) (Y : p.Sym) (A : p.Acc) (h2 : (2 : K) ≠ 0)
include hon

theorem kp_eq_dgP : p.kp = p.dgP := by
  funext a b
  exact p.keptE_opt hon a.val b.val

include R in
theorem kp_two (a b c : Fin p.d) : p.kp a b = (p.kp a c == p.kp c b) := by
  have two : ∀ x < 2, ∀ y < 2, ∀ z < 2, (x == y) = ((x == z) == (z == y)) := by decide
  have hN := p.nblocks_of_opt hon
  rw [p.kp_eq_dgP hon]
  exact two _ (hN ▸ R.hN a) _ (hN ▸ R.hN b) _ (hN ▸ R.hN c)

theorem coeff_SelS_opt (x : Sr (Fin p.nparams) K p.d) (m : Fin p.nparams →₀ ℕ) (a b : Fin p.d) :
    coeff m (p.SelS x) a b = if p.blk a.val = p.blk b.val then coeff m x a b else 0 := by
  rw [coeff_SelS, p.keptE_opt hon]; simp

include R h2 in
theorem eqW2 : 2 * p.sr "W" = -p.SelS ((p.sr "W" - p.sr "V") * (p.sr "W" + p.sr "V")) := by
  rw [← p.sr_Q R, ← p.sr_P R, p.sr_prod R prod_QP]
  ext m a b
  rw [coeff_two_mul_apply, coeff_neg_apply, p.coeff_SelS_opt hon]
  have upper : ∀ a b : Fin p.d, ¬ p.blk a.val > p.blk b.val → coeff m (p.sr "W") a b
      = if p.blk a.val = p.blk b.val then ((-2 : ℤ) : K)⁻¹ * coeff m (p.sr "U'† @ U'") a b else 0 := by
    intro a b hle
    rw [p.c_W R, if_neg hle, p.keptE_opt hon, hon]; simp
  by_cases hgt : p.blk a.val > p.blk b.val
  · rw [p.c_W R, if_pos hgt, upper b a (by omega), if_neg (by omega), if_neg (by omega), star_zero, mul_zero,
      neg_zero]
  · rw [upper a b hgt]
    split
    · exact neg_two_inv_mul h2 _
    · rw [mul_zero, neg_zero]

include R in
theorem Yev : p.SelS (p.sr "Yadj") = 0 := by
  rw [SelS_eq_zero_iff]
  intro m a b hk
  have hc : p.commuting (p.blk a.val) = true := by
    have hfd := p.empty_of_opt hon
    unfold commuting
    cases hf : p.fdEff with
    | dict l => simp [fdIsEmpty, hf] at hfd; simp [hfd]
    | _ => rfl
  rw [p.c_Y R, if_neg (p.kept_same_block hk).not_gt, if_pos hk, if_pos hc]

include R in
theorem Yup : p.UpS (p.sr "Yadj") = p.UpS (star (p.sr "X")) := by
  ext m a b
  rw [coeff_UpS, coeff_UpS, coeff_star_apply]
  split
  · rename_i h
    rw [p.c_Y R, if_neg (by omega), p.keptE_opt hon, hon]
    have : (p.blk a.val == p.blk b.val) = false := by simp; omega
    simp [this]
  · rfl

include R in
theorem Ylo : p.LoS (p.sr "Yadj") = p.LoS (p.sr "X") := by
  ext m a b
  rw [coeff_LoS, coeff_LoS]
  split
  · rename_i h
    rw [p.c_Y R, if_pos h, p.c_Y R, if_neg (by omega), p.keptE_opt hon, hon]
    have : (p.blk b.val == p.blk a.val) = false := by simp; omega
    simp [this]
  · rfl

theorem split_opt (x : Sr (Fin p.nparams) K p.d) : x = p.SelS x + p.UpS x + p.LoS x := by
  rw [SelS, p.kp_eq_dgP hon]; exact (p.split_blocks x).symm

theorem UpS_SelS (x : Sr (Fin p.nparams) K p.d) : p.UpS (p.SelS x) = 0 := by
  ext m a b
  rw [coeff_UpS, p.coeff_SelS_opt hon]
  split
  · rw [if_neg (by omega)]; rfl
  · rfl

theorem LoS_SelS (x : Sr (Fin p.nparams) K p.d) : p.LoS (p.SelS x) = 0 := by
  ext m a b
  rw [coeff_LoS, p.coeff_SelS_opt hon]
  split
  · rw [if_neg (by omega)]; rfl
  · rfl

include R in
theorem kp_parity_mul {x y : Sr (Fin p.nparams) K p.d} (s t : Bool)
    (hx : ∀ m a b, p.kp a b = !s → coeff m x a b = 0) (hy : ∀ m a b, p.kp a b = !t → coeff m y a b = 0) :
    ∀ m a b, p.kp a b = !(s == t) → coeff m (x * y) a b = 0 :=
  parity_mul (p.kp_two R hon) hx hy

noncomputable def hypH2 : TheoremH2.Hyp2 (Sr (Fin p.nparams) K p.d) where
  Φ := p.filt
  two_cancel := two_cancel_series h2
  two_mem := two_mem_series h2
  star_mem := p.star_mem_F
  Ev := p.SelS
  Up := p.UpS
  Lo := p.LoS
  split := p.split_opt hon
  Ev_Ev := p.SelS_idem
  Up_Ev := p.UpS_SelS hon
  Lo_Ev := p.LoS_SelS hon
  Ev_star := p.SelS_star Y
  Up_star := p.UpS_star
  Ev_mem := coeffwise_mem _
  Up_mem := coeffwise_mem _
  Lo_mem := coeffwise_mem _
  ee := fun x y hx hy => mask_fix_iff.mpr
    (p.kp_parity_mul R hon true true (mask_fix_iff.mp hx) (mask_fix_iff.mp hy))
  oo := fun x y hx hy => mask_fix_iff.mpr
    (p.kp_parity_mul R hon false false (mask_kill_iff.mp hx) (mask_kill_iff.mp hy))
  eo := fun x y hx hy => mask_kill_iff.mpr
    (p.kp_parity_mul R hon true false (mask_fix_iff.mp hx) (mask_kill_iff.mp hy))
  oe := fun x y hx hy => mask_kill_iff.mpr
    (p.kp_parity_mul R hon false true (mask_kill_iff.mp hx) (mask_fix_iff.mp hy))
  H0 := p.H0s
  Hd := p.sr "H'_diag"
  Ho := p.sr "H'_offdiag"
  W := p.sr "W"
  V := p.sr "V"
  X := p.sr "X"
  B := p.sr "B"
  Y := p.sr "Yadj"
  Ht := p.sr "H_tilde"
  H0star := p.H0s_star Y
  H0ev := p.H0s_sel A.diag_kept
  Hdstar := Ser_diag_star R.runs find_Hd Y (p.sr_H_star A)
  Hdev := p.Hd_sel R
  Hostar := Ser_offdiag_star R.runs find_Ho Y (p.sr_H_star A)
  Hoodd := p.Ho_sel R
  Vstar := p.sr_V_star R Y
  Vodd := p.V_sel R
  Wmem := p.F1_W R
  Vmem := p.F1_V R
  -- `(e :)` as in `fillHyp` (MainSeries)
  eqW2 := (p.eqW2 R hon h2 :)
  Yev := p.Yev R hon
  Ylo := p.Ylo R hon
  Yup := p.Yup R hon
  eqX := by rw [← p.sr_P R]; exact p.sr_X R
  eqBsel := (p.eqBsel R Y A h2 :)
  eqBrem := (p.eqBrem R :)
  eqV := (p.eqV R Y A :)
  eqHt := (p.eqHt R A h2 :)

end optimised

variable (R : p.Ready) (hopt : p.twoBlockOptimized = false) (Y : p.Sym) (A : p.Acc) (h2 : (2 : K) ≠ 0)

include R Y A h2 in
/-- the fields of `TheoremH.Hyp` that depend on the flag: by the fill and the equation of `Yadj` when it is off,
from Theorem H2 when it is on -/
theorem Wstar_eqW_eqY : star (p.sr "W") = p.sr "W" ∧
    2 * p.sr "W" = -((p.sr "W" - p.sr "V") * (p.sr "W" + p.sr "V")) ∧
    2 * p.sr "Yadj" = star (p.sr "X") + p.sr "X" := by
  cases ho : p.twoBlockOptimized
  · exact ⟨p.sr_W_star R ho Y h2, p.sr_eqW R ho Y h2, p.eqY R ho Y A h2⟩
  · let h := TheoremH2.toHyp (p.hypH2 R ho Y A h2)
    exact ⟨h.Wstar, h.eqW, h.eqY⟩

noncomputable def hypH : TheoremH.Hyp (Sr (Fin p.nparams) K p.d) :=
  have h := p.Wstar_eqW_eqY R Y A h2
  ⟨p.baseH R Y A h2 h.1, h.2.1, h.2.2⟩

include R Y A h2 in
/-- **C01 for the model**: `U† · H · U = H̃` as formal power series.  Since `H̃` is supported on the kept entries,
this is at once "equal to `H̃` on kept elements" and "zero on eliminated ones". -/
theorem C01_main : p.sr "U†" * p.sr "H" * p.sr "U" = p.sr "H_tilde" := by
  rw [p.sr_U R, p.sr_Ud R, p.sr_P R, p.sr_Q R, p.sr_H R A]
  exact TheoremH.main_identity (p.hypH R Y A h2)

include R Y A h2 in
/-- **C02 for the model** -/
theorem C02_main : p.sr "U†" * p.sr "U" = 1 ∧ p.sr "U" * p.sr "U†" = 1 ∧ star (p.sr "U") = p.sr "U†" := by
  refine ⟨?_, ?_, p.sr_U_star R Y (p.Wstar_eqW_eqY R Y A h2).1⟩
  · rw [p.sr_U R, p.sr_Ud R, p.sr_P R, p.sr_Q R]
    exact TheoremH.unitary (p.hypH R Y A h2)
  · rw [p.sr_U R, p.sr_Ud R, p.sr_P R, p.sr_Q R]
    exact TheoremH.unitary' (p.hypH R Y A h2)

include R hopt Y A h2 in
/-- the eliminated part of the returned `H̃` — hence of `U†HU` — vanishes -/
theorem C01_eliminated (m : Fin p.nparams →₀ ℕ) (a b : Fin p.d) (hk : p.keptE a.val b.val = false) :
    coeff m (p.sr "U†" * p.sr "H" * p.sr "U") a b = 0 := by
  rw [p.C01_main R Y A h2]
  exact p.Ht_elim R A m a b hk

end Problem
end BlockDiag
end Pyma
#print axioms Pyma.BlockDiag.Problem.C01_main
#print axioms Pyma.BlockDiag.Problem.C02_main
#print axioms Pyma.BlockDiag.Problem.C01_eliminated
