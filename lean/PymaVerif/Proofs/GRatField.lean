/-
The executable scalar type `GRat = ℚ[i]` is a field with involution, and the `Scalar` structure the
driver computes with is the one the theorems are stated for (`Scalar.ofField`).
-/
import PymaVerif.Proofs.MatBridge
import Mathlib.Tactic.Linarith

namespace Pyma
namespace GRat

@[ext] theorem ext : ∀ {a b : GRat}, a.re = b.re → a.im = b.im → a = b
  | ⟨_, _⟩, ⟨_, _⟩, rfl, rfl => rfl

@[simp] theorem add_re (a b : GRat) : (a + b).re = a.re + b.re := rfl
@[simp] theorem add_im (a b : GRat) : (a + b).im = a.im + b.im := rfl
@[simp] theorem mul_re (a b : GRat) : (a * b).re = a.re * b.re - a.im * b.im := rfl
@[simp] theorem mul_im (a b : GRat) : (a * b).im = a.re * b.im + a.im * b.re := rfl
@[simp] theorem neg_re (a : GRat) : (-a).re = -a.re := rfl
@[simp] theorem neg_im (a : GRat) : (-a).im = -a.im := rfl
@[simp] theorem sub_re (a b : GRat) : (a - b).re = a.re - b.re := rfl
@[simp] theorem sub_im (a b : GRat) : (a - b).im = a.im - b.im := rfl
@[simp] theorem zero_re : (0 : GRat).re = 0 := rfl
@[simp] theorem zero_im : (0 : GRat).im = 0 := rfl
@[simp] theorem one_re : (1 : GRat).re = 1 := rfl
@[simp] theorem one_im : (1 : GRat).im = 0 := rfl
@[simp] theorem conj_re (a : GRat) : a.conj.re = a.re := rfl
@[simp] theorem conj_im (a : GRat) : a.conj.im = -a.im := rfl

instance : Inv GRat := ⟨inv⟩

theorem normSq_eq_zero {a : GRat} (h : a.normSq = 0) : a = 0 := by
  rw [normSq, mul_self_add_mul_self_eq_zero] at h
  exact GRat.ext h.1 h.2

instance : CommRing GRat where
  add_assoc a b c := GRat.ext (add_assoc _ _ _) (add_assoc _ _ _)
  zero_add a := GRat.ext (zero_add _) (zero_add _)
  add_zero a := GRat.ext (add_zero _) (add_zero _)
  add_comm a b := GRat.ext (add_comm _ _) (add_comm _ _)
  mul_assoc a b c := by ext <;> simp only [mul_re, mul_im] <;> ring
  one_mul a := by ext <;> simp only [mul_re, mul_im, one_re, one_im] <;> ring
  mul_one a := by ext <;> simp only [mul_re, mul_im, one_re, one_im] <;> ring
  mul_comm a b := by ext <;> simp only [mul_re, mul_im] <;> ring
  left_distrib a b c := by ext <;> simp only [mul_re, mul_im, add_re, add_im] <;> ring
  right_distrib a b c := by ext <;> simp only [mul_re, mul_im, add_re, add_im] <;> ring
  zero_mul a := by ext <;> simp only [mul_re, mul_im, zero_re, zero_im] <;> ring
  mul_zero a := by ext <;> simp only [mul_re, mul_im, zero_re, zero_im] <;> ring
  neg_add_cancel a := GRat.ext (neg_add_cancel _) (neg_add_cancel _)
  sub_eq_add_neg a b := GRat.ext (sub_eq_add_neg _ _) (sub_eq_add_neg _ _)
  nsmul := nsmulRec
  zsmul := zsmulRec

instance : Field GRat where
  inv := inv
  exists_pair_ne := ⟨0, 1, by intro h; have := congrArg GRat.re h; simp at this⟩
  mul_inv_cancel a ha := by
    have hn : a.normSq ≠ 0 := fun h => ha (normSq_eq_zero h)
    show a * inv a = 1
    unfold inv
    simp only [hn, ↓reduceIte]
    ext
    · show a.re * (a.re / a.normSq) - a.im * (-a.im / a.normSq) = 1
      rw [← div_self hn]
      unfold normSq
      ring
    · show a.re * (-a.im / a.normSq) + a.im * (a.re / a.normSq) = 0
      ring
  inv_zero := by
    show inv 0 = 0
    unfold inv normSq; simp; rfl
  nnqsmul := _
  nnqsmul_def := fun _ _ => rfl
  qsmul := _
  qsmul_def := fun _ _ => rfl

instance : StarRing GRat where
  star := conj
  star_involutive a := GRat.ext rfl (neg_neg _)
  star_mul a b := by ext <;> simp only [conj_re, conj_im, mul_re, mul_im] <;> ring
  star_add a b := GRat.ext rfl (neg_add _ _)

instance : Thresholds GRat where
  absGt := absGt
  absLt := fun a t => decide (a.normSq < t * t)
  isClose := isClose

instance : BlockDiag.Problem.LawfulThresholds GRat where
  absGt_neg := by
    intro x t
    show absGt (-x) t = absGt x t
    unfold absGt normSq; simp
  absGt_ne := by
    intro x t ht h hx
    subst hx
    have h' : absGt 0 t = true := h
    unfold absGt normSq at h'
    simp only [zero_re, zero_im, mul_zero, add_zero, gt_iff_lt, decide_eq_true_eq] at h'
    have : t * t ≥ 0 := mul_self_nonneg t
    linarith

theorem natCast_re (n : Nat) : ((n : GRat)).re = (n : Rat) := by
  induction n with
  | zero => simp
  | succ i ih => rw [Nat.cast_succ, Nat.cast_succ, add_re, ih, one_re]

theorem natCast_im (n : Nat) : ((n : GRat)).im = 0 := by
  induction n with
  | zero => simp
  | succ i ih => rw [Nat.cast_succ, add_im, ih, one_im, add_zero]

theorem intCast_re (k : Int) : ((k : GRat)).re = (k : Rat) := by
  cases k with
  | ofNat n => simp [natCast_re]
  | negSucc n => rw [Int.cast_negSucc, Int.cast_negSucc, neg_re, natCast_re]

theorem intCast_im (k : Int) : ((k : GRat)).im = 0 := by
  cases k with
  | ofNat n => simp [natCast_im]
  | negSucc n => rw [Int.cast_negSucc, neg_im, natCast_im, neg_zero]

theorem divInt_eq (x : GRat) (k : Int) : x / (k : GRat) = divInt x k := by
  by_cases hk : (k : Rat) = 0
  · have hk' : (k : GRat) = 0 := GRat.ext (by rw [intCast_re, hk]; rfl) (by rw [intCast_im]; rfl)
    rw [hk', div_zero, divInt, hk, div_zero, div_zero]
    rfl
  · have hk' : (k : GRat) ≠ 0 := fun h => hk (by rw [← intCast_re, h]; rfl)
    rw [div_eq_iff hk']
    apply GRat.ext
    · rw [mul_re, intCast_re, intCast_im, mul_zero, sub_zero]
      exact (div_mul_cancel₀ _ hk).symm
    · rw [mul_im, intCast_re, intCast_im, mul_zero, zero_add]
      exact (div_mul_cancel₀ _ hk).symm

theorem beq_eq (a b : GRat) :
    @BEq.beq GRat instBEqOfDecidableEq a b = (decide (a.re = b.re) && decide (a.im = b.im)) := by
  rw [← Bool.decide_and]
  exact decide_eq_decide.mpr GRat.ext_iff

end GRat

theorem Scalar.ext {K : Type} (a b : Scalar K)
    (h1 : a.toAdd = b.toAdd) (h2 : a.toMul = b.toMul) (h3 : a.toNeg = b.toNeg) (h4 : a.toSub = b.toSub)
    (h5 : a.toZero = b.toZero) (h6 : a.toOne = b.toOne) (h7 : a.toInv = b.toInv) (h8 : a.toBEq = b.toBEq)
    (h9 : a.conj = b.conj) (h10 : a.divInt = b.divInt) (h11 : a.absGt = b.absGt) (h12 : a.absLt = b.absLt)
    (h13 : a.isClose = b.isClose) : a = b := by
  cases a; cases b; simp only at *; subst_vars; rfl

namespace GRat

theorem scalar_eq : Scalar.ofField GRat = (inferInstance : Scalar GRat) := by
  apply Scalar.ext
  · rfl
  · rfl
  · rfl
  · rfl
  · rfl
  · rfl
  · rfl
  · show (instBEqOfDecidableEq : BEq GRat) = ⟨fun a b => a.re == b.re && a.im == b.im⟩
    have : ∀ (x y : BEq GRat), x.beq = y.beq → x = y := fun
      | ⟨_⟩, ⟨_⟩, rfl => rfl
    apply this
    funext a b
    rw [beq_eq a b]
    rfl
  · rfl
  · funext x k; exact divInt_eq x k
  · rfl
  · rfl
  · rfl

end GRat
end Pyma
