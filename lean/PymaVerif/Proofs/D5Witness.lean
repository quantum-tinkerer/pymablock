/-
C05 is false of the shipped `nonhermitian` recurrences: a kernel-checked counterexample.
For `H_0 = diag(0,1,3)`, blocks `{0,1} | {2}`, `H_1` = all ones off the diagonal, the values the
reference semantics assigns to `U_inv` (the series `U†` of that algorithm), `U`, `H_tilde` (default
flags, `hermitian=False`) satisfy `(U_inv · H · U)_2 [0,1] ≠ (H_tilde)_2 [0,1]`.  The same input
replayed on the real code gives the same numbers (finding D5).
-/
import PymaVerif.Proofs.DslSound
import PymaVerif.Proofs.WitnessProblems
import PymaVerif.Model.Generated.Algorithms

namespace Pyma
namespace BlockDiag
open Dsl Generated
namespace Problem

attribute [local instance] Scalar.ofField

def d5 : Problem ℚ where
  d := 3
  blockOf := #[0, 0, 1]
  nblocks := 2
  nparams := 1
  terms := [([0], ⟨3, #[0,0,0, 0,1,0, 0,0,3]⟩), ([1], ⟨3, #[0,1,1, 1,0,1, 1,1,0]⟩)]
  hermitian := false
  fd := .none
  atol := 1/1000

def d5entry (x : String) (n a b : Nat) : Option ℚ :=
  match evalNC nonhermitian d5.env 40 x ⟨d5.blk a, d5.blk b, [n]⟩ ∅ with
  | .ok (.zero, _) => some 0
  | .ok (.one, _) => some (if a == b then 1 else 0)
  | .ok (.val m, _) => some (m.get a b)
  | .error _ => none

def optSum (l : List (Option ℚ)) : Option ℚ := l.foldl (fun acc x => do let s ← acc; let y ← x; pure (s + y)) (some 0)

/-- `(U_inv · H · U)` at order 2, entry (0,1): the plain triple Cauchy sum -/
def d5lhs : Option ℚ :=
  optSum <| (List.range 3).flatMap fun na => (List.range 3).flatMap fun nb => (List.range 3).flatMap fun nc =>
    if na + nb + nc == 2 then
      (List.range 3).flatMap fun k => (List.range 3).map fun l => do
        let x ← d5entry "U†" na 0 k
        let y ← d5entry "H" nb k l
        let z ← d5entry "U" nc l 1
        pure (x * y * z)
    else []

theorem d5_lhs : d5lhs = some (-5/12) := by decide +kernel
theorem d5_rhs : d5entry "H_tilde" 2 0 1 = some (-1/2) := by decide +kernel

/-- the two sides of C05 differ on this input -/
theorem D5_witness : d5lhs ≠ d5entry "H_tilde" 2 0 1 := by
  rw [d5_lhs, d5_rhs]; decide +kernel

end Problem
end BlockDiag
end Pyma
#print axioms Pyma.BlockDiag.Problem.D5_witness
