/-
C12 at the level of the reference semantics: the value of an element at multi-order `n` depends
on the input series only through its terms at orders `≤ n` componentwise.  Generic in the program:
Theorem D (`Holds.mapOn`) with the identity as map and the orders below `n` as the set of orders.
-/
import PymaVerif.Proofs.Splits
import PymaVerif.Proofs.Total
import PymaVerif.Proofs.Natural

namespace Pyma
namespace Dsl

variable {K : Type} [Scalar K]

def ole (a b : List Nat) : Prop := a.length = b.length ∧ ∀ i, a.getD i 0 ≤ b.getD i 0

theorem ole_refl (a : List Nat) : ole a a := ⟨rfl, fun _ => Nat.le_refl _⟩

theorem ole_trans {a b c : List Nat} (h1 : ole a b) (h2 : ole b c) : ole a c :=
  ⟨h1.1.trans h2.1, fun i => Nat.le_trans (h1.2 i) (h2.2 i)⟩

theorem ole_of_getD_le {a n : List Nat} (hl : a.length = n.length)
    (h : ∀ i, i < n.length → a.getD i 0 ≤ n.getD i 0) : ole a n := by
  refine ⟨hl, fun i => ?_⟩
  by_cases hi : i < n.length
  · exact h i hi
  · rw [List.getD_eq_getElem?_getD, List.getElem?_eq_none (by omega)]
    exact Nat.zero_le _

theorem splits_ole {n a b : List Nat} (h : (a, b) ∈ splits n) : ole a n ∧ ole b n := by
  obtain ⟨h1, h2, h3⟩ := mem_splits.mp h
  exact ⟨ole_of_getD_le h1 fun i hi => Nat.le.intro (h3 i hi),
    ole_of_getD_le h2 fun i hi => Nat.le.intro ((Nat.add_comm _ _).trans (h3 i hi))⟩

def J.ord : J K → List Nat
  | .elem _ idx => idx.n
  | .expr _ idx => idx.n
  | .body _ idx _ _ => idx.n
  | .pairs _ _ idx _ _ => idx.n

def J.ok : J K → Prop
  | .pairs _ _ idx ps _ => ∀ t ∈ ps, ole t.2.1 idx.n ∧ ole t.2.2 idx.n
  | _ => True

def AgreeUpTo (env : Env K) (inp : String → Idx → SVal K) (n : List Nat) : Prop :=
  ∀ h (idx : Idx), ole idx.n n → env.input h idx = inp h idx

theorem Holds.causal {p : Prog} {env : Env K} (inp : String → Idx → SVal K) {j : J K} {v : SVal K}
    (h : Holds p env j v) : j.ok → AgreeUpTo env inp j.ord → Holds p (env.withInput inp) j v := by
  intro hok hag
  -- but for its inputs, `env.withInput inp` is `env`
  have := h.mapOn (env' := env.withInput inp) (fun n => ole n j.ord)
    (fun _ n hn t ht => ⟨ole_trans (splits_ole (mem_pairsOf ht)).1 hn, ole_trans (splits_ole (mem_pairsOf ht)).2 hn⟩)
    ValMap.id (fun _ => rfl) (EnvMap.refl env) (fun h idx hd => (hag h idx hd).symm)
  cases j with
  | pairs a b idx ps acc => exact this ⟨ole_refl _, hok⟩
  | _ => exact this (ole_refl _)

/-- **C12 (semantics)**: changing the input series above order `n` does not change element `n` -/
theorem Den.causal {p : Prog} {env : Env K} (inp : String → Idx → SVal K) {x : String} {idx : Idx}
    {v : SVal K} (h : Den p env x idx v) (hag : AgreeUpTo env inp idx.n) :
    Den p (env.withInput inp) x idx v :=
  Holds.causal inp h trivial hag

end Dsl
end Pyma

#print axioms Pyma.Dsl.Den.causal
