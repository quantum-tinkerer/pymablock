/-
C04 for the model: `H̃ = U†·H·U` with `U·U† = 1`, so `H̃` and `H(λ)` are similar, and what is invariant under similarity agrees.  A power series with
`d × d` matrix coefficients is the same thing as a `d × d` matrix of power series (`toMatS`, a ring homomorphism), a matrix over a commutative ring; there
the characteristic polynomials — polynomials whose coefficients are power series in the perturbation parameters — coincide, and so do all power traces (in
characteristic zero they determine the characteristic polynomial, Newton).  The same holds up to total degree `N` for the truncation of `H̃` at degree `N`:
"the truncated effective Hamiltonian has the exact spectrum to order `N`", without mentioning `U`.
-/
import PymaVerif.Proofs.Accepted
import Mathlib.LinearAlgebra.Matrix.Charpoly.Basic

namespace Pyma
open MvPowerSeries

section
variable {K : Type} [Field K] {d : Nat} {σ : Type} [DecidableEq σ]

noncomputable def tm (f : MvPowerSeries σ (Matrix (Fin d) (Fin d) K)) : Matrix (Fin d) (Fin d) (MvPowerSeries σ K) :=
  fun a b => (fun m => coeff m f a b : MvPowerSeries σ K)

theorem coeff_tm (f : MvPowerSeries σ (Matrix (Fin d) (Fin d) K)) (a b : Fin d) (m : σ →₀ ℕ) :
    coeff m (tm f a b) = coeff m f a b := rfl

noncomputable def toMatS : MvPowerSeries σ (Matrix (Fin d) (Fin d) K) →+* Matrix (Fin d) (Fin d) (MvPowerSeries σ K) where
  toFun := tm
  map_zero' := by
    ext a b m
    rw [coeff_tm]; simp
  map_one' := by
    ext a b m
    rw [coeff_tm, coeff_one, Matrix.one_apply]
    by_cases hm : m = 0
    · subst hm
      by_cases hab : a = b
      · subst hab; simp
      · simp [hab]
    · by_cases hab : a = b
      · subst hab; simp [hm, coeff_one]
      · simp [hm, hab]
  map_add' f g := by
    ext a b m
    rw [Matrix.add_apply, map_add, coeff_tm, coeff_tm, coeff_tm, map_add, Matrix.add_apply]
  map_mul' f g := by
    ext a b m
    rw [coeff_tm, coeff_mul, Matrix.mul_apply, map_sum, Matrix.sum_apply]
    simp only [coeff_mul, Matrix.mul_apply, coeff_tm]
    rw [Finset.sum_comm]

theorem toMatS_apply (f : MvPowerSeries σ (Matrix (Fin d) (Fin d) K)) (a b : Fin d) (m : σ →₀ ℕ) :
    coeff m (toMatS f a b) = coeff m f a b := rfl

noncomputable def trS (x : Sr σ K d) : MvPowerSeries σ K := fun m => (coeff m x).trace

omit [DecidableEq σ] in
theorem coeff_trS (x : Sr σ K d) (m : σ →₀ ℕ) : coeff m (trS x) = (coeff m x).trace := rfl

theorem trS_eq_trace (x : Sr σ K d) : trS x = (toMatS x).trace := by
  ext m
  rw [coeff_trS, Matrix.trace, Matrix.trace, map_sum]
  rfl

theorem trS_mul_comm (x y : Sr σ K d) : trS (x * y) = trS (y * x) := by
  rw [trS_eq_trace, trS_eq_trace, map_mul, map_mul, Matrix.trace_mul_comm]

theorem trS_conj_pow {u ui h : Sr σ K d} (h1 : ui * u = 1) (h2 : u * ui = 1) (k : ℕ) :
    trS ((ui * h * u) ^ k) = trS (h ^ k) := by
  have e : (ui * h * u) ^ k = ui * h ^ k * u := Units.conj_pow' ⟨u, ui, h2, h1⟩ h k
  rw [e, mul_assoc, trS_mul_comm, mul_assoc, h2, mul_one]

noncomputable def truncS (N : ℕ) (x : Sr σ K d) : Sr σ K d := fun m => if m.degree ≤ N then coeff m x else 0

omit [DecidableEq σ] in
theorem coeff_truncS (N : ℕ) (x : Sr σ K d) (m : σ →₀ ℕ) :
    coeff m (truncS N x) = if m.degree ≤ N then coeff m x else 0 := rfl

omit [DecidableEq σ] in
theorem sub_truncS_mem (N : ℕ) (x : Sr σ K d) : x - truncS N x ∈ FDeg σ (Mt K d) (N + 1) := by
  intro m hm
  have : m.degree ≤ N := by omega
  rw [map_sub, coeff_truncS, if_pos this, sub_self]

theorem pow_sub_mem {S : Type*} [Ring S] (Φ : Filtration S) {x y : S} {n : ℕ} (h : x - y ∈ Φ.F n) (k : ℕ) :
    x ^ k - y ^ k ∈ Φ.F n := by
  induction k with
  | zero => simp
  | succ k ih =>
    rw [pow_succ, pow_succ, mul_sub_mul]
    exact add_mem (Φ.mul_any_right ih) (Φ.mul_any_left h)

end

namespace BlockDiag
namespace Problem

variable {K : Type} [Field K] [StarRing K] [DecidableEq K] [Thresholds K]
variable {p : Problem K} [LawfulThresholds K] (h : p.Accepted) (h2 : (2 : K) ≠ 0)
include h h2

/-- **C04 (characteristic polynomial)**: as polynomials with power-series coefficients, `charpoly H̃ = charpoly H` -/
theorem C04_charpoly : (toMatS (p.sr "H_tilde")).charpoly = (toMatS (p.sr "H")).charpoly := by
  obtain ⟨_, u2, _⟩ := C02 h h2
  rw [← C01 h h2, mul_assoc, map_mul, Matrix.charpoly_mul_comm, ← map_mul, mul_assoc, u2, mul_one]

/-- **C04**: all power traces of `H̃` and of `H` agree, to all orders -/
theorem C04_traces (k : ℕ) : trS (p.sr "H_tilde" ^ k) = trS (p.sr "H" ^ k) := by
  obtain ⟨u1, u2, _⟩ := C02 h h2
  rw [← C01 h h2]
  exact trS_conj_pow u1 u2 k

/-- **C04**, truncated: the power traces of the effective Hamiltonian truncated at degree `N` agree
with the exact ones in every coefficient of total degree `≤ N` -/
theorem C04_truncated (N k : ℕ) (m : Fin p.nparams →₀ ℕ) (hm : m.degree ≤ N) :
    coeff m (trS (truncS N (p.sr "H_tilde") ^ k)) = coeff m (trS (p.sr "H" ^ k)) := by
  rw [← C04_traces h h2 k, coeff_trS, coeff_trS]
  have hmem := pow_sub_mem p.filt (sub_truncS_mem N (p.sr "H_tilde")) k
  have := hmem m (by omega)
  rw [LinearMap.map_sub, sub_eq_zero] at this
  rw [this]

theorem HU_eq_UHt : p.sr "H" * p.sr "U" = p.sr "U" * p.sr "H_tilde" := by
  obtain ⟨_, u2, _⟩ := C02 h h2
  calc p.sr "H" * p.sr "U" = (p.sr "U" * p.sr "U†") * (p.sr "H" * p.sr "U") := by rw [u2, one_mul]
    _ = p.sr "U" * (p.sr "U†" * p.sr "H" * p.sr "U") := by simp only [mul_assoc]
    _ = p.sr "U" * p.sr "H_tilde" := by rw [C01 h h2]

/-- **C04, Rayleigh–Schrödinger form**: if the state `a` is decoupled from every other state (all
pairs `(c,a)`, `c ≠ a`, are eliminated — e.g. a fully diagonalised block without degeneracies, or a
1×1 block), then column `a` of `U` is an eigenvector series of `H` with eigenvalue series `H̃_aa` -/
theorem C04_rayleigh_schrodinger (a : Fin p.d) (ha : ∀ c : Fin p.d, c ≠ a → p.keptE c.val a.val = false)
    (m : Fin p.nparams →₀ ℕ) (b : Fin p.d) :
    coeff m (p.sr "H" * p.sr "U") b a
      = ∑ q ∈ Finset.antidiagonal m, coeff q.1 (p.sr "U") b a * coeff q.2 (p.sr "H_tilde") a a := by
  rw [HU_eq_UHt h h2, coeff_mul, Matrix.sum_apply]
  apply Finset.sum_congr rfl
  intro q _
  rw [Matrix.mul_apply]
  apply Finset.sum_eq_single a
  · intro c _ hc
    rw [p.Ht_elim h.ready h.acc q.2 c a (ha c hc), mul_zero]
  · intro hn; exact absurd (Finset.mem_univ a) hn

end Problem
end BlockDiag
end Pyma
#print axioms Pyma.BlockDiag.Problem.C04_truncated
#print axioms Pyma.BlockDiag.Problem.C04_rayleigh_schrodinger
#print axioms Pyma.BlockDiag.Problem.C04_charpoly
