/-
Hadamard masks as additive maps on matrices and, coefficientwise, on power series; cancellation of 2.
-/
import PymaVerif.Proofs.SeriesInst
import Mathlib.LinearAlgebra.Matrix.ConjTranspose

open MvPowerSeries

namespace Pyma

variable {K : Type} [Field K] [StarRing K] {d : Nat}

abbrev Mt (K : Type) (d : Nat) := Matrix (Fin d) (Fin d) K

def maskMap (pred : Fin d → Fin d → Bool) : Mt K d →+ Mt K d where
  toFun M := fun a b => if pred a b then M a b else 0
  map_zero' := by funext a b; simp
  map_add' M N := by
    funext a b
    show (if pred a b then (M + N) a b else 0) = (if pred a b then M a b else 0) + (if pred a b then N a b else 0)
    by_cases h : pred a b <;> simp [h]

theorem maskMap_apply (pred : Fin d → Fin d → Bool) (M : Mt K d) (a b : Fin d) :
    maskMap pred M a b = if pred a b then M a b else 0 := rfl

theorem maskMap_idem (pred : Fin d → Fin d → Bool) (M : Mt K d) :
    maskMap pred (maskMap pred M) = maskMap pred M := by
  funext a b; simp only [maskMap_apply]; by_cases h : pred a b <;> simp [h]

theorem maskMap_add_compl (pred : Fin d → Fin d → Bool) (M : Mt K d) :
    maskMap pred M + maskMap (fun a b => !pred a b) M = M := by
  funext a b; simp only [Matrix.add_apply, maskMap_apply]; by_cases h : pred a b <;> simp [h]

theorem maskMap_conjTranspose (pred : Fin d → Fin d → Bool) (hs : ∀ a b, pred a b = pred b a)
    (M : Mt K d) : (maskMap pred M).conjTranspose = maskMap pred M.conjTranspose := by
  funext a b
  simp only [Matrix.conjTranspose_apply, maskMap_apply, hs a b]
  by_cases h : pred b a <;> simp [h]

section series
variable {σ : Type}

abbrev Sr (σ : Type) (K : Type) (d : Nat) := MvPowerSeries σ (Mt K d)

theorem coeff_coeffwise (φ : Mt K d →+ Mt K d) (f : Sr σ K d) (m : σ →₀ ℕ) :
    coeff m (coeffwise φ f) = φ (coeff m f) := rfl

theorem mask_fix_iff {e : Fin d → Fin d → Bool} {x : Sr σ K d} :
    coeffwise (maskMap e) x = x ↔ ∀ m a b, e a b = false → coeff m x a b = 0 := by
  simp only [MvPowerSeries.ext_iff, ← Matrix.ext_iff, coeff_coeffwise, maskMap_apply]
  exact forall₃_congr fun m a b => by cases e a b <;> simp [eq_comm]

theorem mask_kill_iff {e : Fin d → Fin d → Bool} {x : Sr σ K d} :
    coeffwise (maskMap e) x = 0 ↔ ∀ m a b, e a b = true → coeff m x a b = 0 := by
  simp only [MvPowerSeries.ext_iff, ← Matrix.ext_iff, coeff_coeffwise, maskMap_apply, map_zero, Matrix.zero_apply]
  exact forall₃_congr fun m a b => by cases e a b <;> simp

theorem mem_F1_iff {f : Sr σ K d} : f ∈ FDeg σ (Mt K d) 1 ↔ coeff 0 f = 0 := by
  show (∀ m : σ →₀ ℕ, m.degree < 1 → coeff m f = 0) ↔ _
  simp only [Nat.lt_one_iff, Finsupp.degree_eq_zero_iff, forall_eq]

theorem coeff_add_apply (f g : Sr σ K d) (m : σ →₀ ℕ) (a b : Fin d) :
    coeff m (f + g) a b = coeff m f a b + coeff m g a b := by
  rw [map_add, Matrix.add_apply]

theorem coeff_sub_apply (f g : Sr σ K d) (m : σ →₀ ℕ) (a b : Fin d) :
    coeff m (f - g) a b = coeff m f a b - coeff m g a b := by
  rw [map_sub, Matrix.sub_apply]

theorem coeff_neg_apply (f : Sr σ K d) (m : σ →₀ ℕ) (a b : Fin d) : coeff m (-f) a b = -coeff m f a b := by
  rw [map_neg, Matrix.neg_apply]

theorem coeff_two_mul_apply (f : Sr σ K d) (m : σ →₀ ℕ) (a b : Fin d) :
    (coeff m (2 * f) : Mt K d) a b = 2 * coeff m f a b := by
  rw [two_mul, two_mul, coeff_add_apply]

theorem two_cancel_series (h2 : (2 : K) ≠ 0) (f g : Sr σ K d) (h : 2 * f = 2 * g) : f = g := by
  ext m a b
  have := congrArg (fun s : Sr σ K d => (coeff m s : Mt K d) a b) h
  simp only [coeff_two_mul_apply] at this
  exact mul_left_cancel₀ h2 this

theorem two_mem_series (h2 : (2 : K) ≠ 0) (k : ℕ) (f : Sr σ K d) (h : 2 * f ∈ FDeg σ (Mt K d) k) :
    f ∈ FDeg σ (Mt K d) k := by
  intro m hm
  funext a b
  have h0 := congrFun (congrFun (h m hm) a) b
  rw [coeff_two_mul_apply] at h0
  exact (mul_eq_zero.mp h0).resolve_left h2

end series
end Pyma
