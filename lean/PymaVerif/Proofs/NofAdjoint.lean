/-
C08, adjoint: the model of `NumberOrderedForm.adjoint` (negate the powers, conjugate the coefficient)
represents the Hermitian adjoint on Fock space.  In the unnormalised basis `|s) = ∏ (a_j†)^{s_j}|0)` the
squared norm of a basis state is `∏_{bosons} s_j!`, so the statement reads

  `(s| x† |s'') · ‖s‖² = conj (s''| x |s) · ‖s''‖²`      for all physical `s`, `s''`.

The Jordan–Wigner count `sigma` depends only on the powers and on the intermediate occupation, which makes
the fermionic part of the statement an identity of counts.
-/
import PymaVerif.Proofs.NofAssoc
import Mathlib.Tactic.LinearCombination

namespace Pyma
namespace Nof
open Finset

theorem conj_mul (a b : GRat) : (a * b).conj = a.conj * b.conj := star_mul' a b
theorem conj_add (a b : GRat) : (a + b).conj = a.conj + b.conj := star_add a b
theorem conj_zero : (0 : GRat).conj = 0 := star_zero GRat
theorem conj_ofInt (k : Int) : (ofInt k).conj = ofInt k := GRat.ext rfl neg_zero
theorem conj_finset_sum {ι : Type} (M : Finset ι) (f : ι → GRat) : (∑ m ∈ M, f m).conj = ∑ m ∈ M, (f m).conj :=
  star_sum M f

def adjT (t : Term) : Term := { powers := t.powers.map (- ·), coeff := fun N => (t.coeff N).conj }

theorem adjoint_eq (x : Form) : adjoint x = x.map adjT := rfl

theorem pw_adjT (t : Term) (j : Nat) : pw (adjT t) j = - pw t j := by
  unfold pw adjT
  simp only [List.getD_eq_getElem?_getD, List.getElem?_map]
  cases t.powers[j]? <;> simp

theorem tgt_tgt {t u : Term} (h : ∀ j, pw u j = - pw t j) (s : Occ) : tgt u (tgt t s) = s := by
  refine occ_ext (by simp) rfl fun j hj => ?_
  rw [get_tgt hj (length_tgt t s), get_tgt hj rfl, h j]
  omega

theorem tgt_adj_iff {t : Term} {s s'' : Occ} : tgt (adjT t) s'' = s ↔ tgt t s = s'' := by
  constructor
  · intro h; rw [← h]; exact tgt_tgt (fun j => by rw [pw_adjT]; omega) s''
  · intro h; rw [← h]; exact tgt_tgt (pw_adjT t) s

theorem mid_adj (t : Term) (s : Occ) : mid (adjT t) (tgt t s) = mid t s := by
  refine occ_ext (by simp) (length_mid t s) fun j hj => ?_
  rw [get_mid hj (length_tgt t s), get_mid hj rfl, pw_adjT, get_tgt hj rfl]
  omega

theorem sigma_adj (c : Ctx) (t : Term) (s : Occ) : sigma c (adjT t) (tgt t s) = sigma c t s := by
  unfold sigma
  rw [mid_adj]
  unfold sigmaPO
  apply sum_congr rfl
  intro k _
  simp only [pw_adjT, ne_eq, neg_eq_zero]

def fac (n : Int) : Int := (n.toNat.factorial : Int)

def norm (c : Ctx) (s : Occ) : Int :=
  ∏ j ∈ range c.n, if c.kind j == .boson then fac (Occ.get s j) else 1

structure Phys (c : Ctx) (s : Occ) : Prop extends Valid c s where
  nonneg : ∀ i, i < c.n → c.kind i = .boson → 0 ≤ Occ.get s i

theorem fac_falling (n : Int) (k : Nat) (hn : 0 ≤ n - k) : fac n = fac (n - k) * falling n k := by
  induction k with
  | zero => simp
  | succ k ih =>
    have hk : (n - k).toNat = (n - (k + 1 : Nat)).toNat + 1 := by omega
    rw [ih (by omega), falling_succ, fac, fac, hk, Nat.factorial_succ, Nat.cast_mul, Nat.cast_succ,
      show ((n - (k + 1 : Nat)).toNat : Int) + 1 = n - k by omega]
    ring

/-- one mode: norm factor times amplitude is symmetric under `(n, p) ↦ (n - p, -p)` -/
theorem mode_adj (c : Ctx) (j : Nat) (n p : Int)
    (hb : c.kind j = .boson → 0 ≤ n ∧ 0 ≤ n - p)
    (hf : c.isInf j = false → (n = 0 ∨ n = 1) ∧ (n - p = 0 ∨ n - p = 1)) :
    (if c.kind j == .boson then fac n else 1) * modeAmp c j (n - p) (-p) =
      (if c.kind j == .boson then fac (n - p) else 1) * modeAmp c j n p := by
  by_cases hbos : c.kind j = .boson
  · -- `n! = (n-p)! · falling n p` read from whichever of `n`, `n - p` is larger
    obtain ⟨h0, h1⟩ := hb hbos
    simp only [hbos, beq_self_eq_true, ↓reduceIte, modeAmp_boson hbos]
    rcases le_or_gt 0 p with hp | hp
    · rw [show (-p).toNat = 0 by omega, falling_zero, mul_one, fac_falling n p.toNat (by omega),
        show n - (p.toNat : Int) = n - p by omega]
    · rw [show p.toNat = 0 by omega, falling_zero, mul_one, fac_falling (n - p) (-p).toNat (by omega),
        show n - p - ((-p).toNat : Int) = n by omega]
  · have hbb : (c.kind j == Kind.boson) = false := by simp [hbos]
    simp only [hbb, Bool.false_eq_true, ↓reduceIte, one_mul]
    cases hinf : c.isInf j
    · obtain ⟨h0, h1⟩ := hf hinf
      rw [modeAmp_fin hinf, modeAmp_fin hinf]
      -- both amplitudes are `1`: `p < 0` leaves `n = 0`, `p = -1` only, and `p > 0` leaves `n = 1`, `p = 1`
      rcases lt_trichotomy p 0 with hp | rfl | hp
      · rw [if_pos (by omega), if_neg (by omega), if_pos hp]; omega
      · rfl
      · rw [if_neg (by omega), if_pos (by omega), if_pos hp]; omega
    · rw [modeAmp_ladder hinf hbos, modeAmp_ladder hinf hbos]

theorem norm_annAmp {c : Ctx} {t : Term} {s : Occ} (hs : Phys c s) (hs'' : Phys c (tgt t s)) :
    norm c s * annAmp c (adjT t) (tgt t s) = norm c (tgt t s) * annAmp c t s := by
  unfold norm annAmp
  rw [← prod_mul_distrib, ← prod_mul_distrib]
  apply prod_congr rfl
  intro j hj
  have hj' : j < c.n := mem_range.mp hj
  have hget : Occ.get (tgt t s) j = _ := get_tgt hj' hs.len
  rw [pw_adjT, hget]
  apply mode_adj
  · intro hb
    exact ⟨hs.nonneg j hj' hb, by rw [← hget]; exact hs''.nonneg j hj' hb⟩
  · intro hf
    exact ⟨hs.bin j hj' hf, by rw [← hget]; exact hs''.bin j hj' hf⟩

theorem ampS'_adj {c : Ctx} (t : Term) {s s'' : Occ} (hs : Phys c s) (hs'' : Phys c s'') :
    ampS' c (adjT t) s'' s * ofInt (norm c s) = (ampS' c t s s'').conj * ofInt (norm c s'') := by
  unfold ampS' ampS
  by_cases h : tgt t s = s''
  · subst h
    rw [if_pos (tgt_adj_iff.mpr rfl), if_pos rfl]
    unfold specAmp sgn
    rw [sigma_adj, mid_adj]
    have hn : ofInt (annAmp c (adjT t) (tgt t s)) * ofInt (norm c s) =
        ofInt (annAmp c t s) * ofInt (norm c (tgt t s)) := by
      rw [← ofInt_mul, ← ofInt_mul, mul_comm, norm_annAmp hs hs'', mul_comm]
    simp only [conj_mul, conj_ofInt]
    show ofInt (sgnI (sigma c t s)) * (ofInt (annAmp c (adjT t) (tgt t s)) * (t.coeff (mid t s)).conj) *
        ofInt (norm c s) = _
    linear_combination ofInt (sgnI (sigma c t s)) * (t.coeff (mid t s)).conj * hn
  · rw [if_neg (fun h' => h (tgt_adj_iff.mp h')), if_neg h]
    simp [conj_zero]

/-- **C08, adjoint.**  `(s| x† |s'')‖s‖² = conj((s''| x |s))‖s''‖²` on all physical states. -/
theorem rep_adjoint (c : Ctx) (x : Form) (s s'' : Occ) (hs : Phys c s) (hs'' : Phys c s'') :
    ampF' c (adjoint x) s'' s * ofInt (norm c s) = (ampF' c x s s'').conj * ofInt (norm c s'') := by
  rw [adjoint_eq]
  induction x with
  | nil => rw [List.map_nil, ampF'_nil, ampF'_nil, conj_zero, zero_mul, zero_mul]
  | cons t x ih =>
    rw [List.map_cons, ampF'_cons, ampF'_cons, conj_add, add_mul, add_mul, ampS'_adj t hs hs'', ih]

/-- the norms do not vanish, so the kernel of the adjoint is determined -/
theorem norm_pos (c : Ctx) (s : Occ) : 0 < norm c s := by
  unfold norm
  apply prod_pos
  intro j _
  split
  · unfold fac; exact_mod_cast Nat.factorial_pos _
  · exact one_pos

theorem wft_adjT {c : Ctx} {t : Term} (h : WFT c t) : WFT c (adjT t) := by
  refine ⟨by simp [adjT, h.len], ?_, ?_⟩
  · intro i hi hfin
    have := h.fin i hi hfin
    rw [pw_adjT]; omega
  · intro i hi hfin hp N v hN
    have hp' : pw t i ≠ 0 := by rw [pw_adjT] at hp; simpa using hp
    show (t.coeff (Occ.set N i v)).conj = (t.coeff N).conj
    rw [h.can i hi hfin hp' N v hN]

theorem wf2_adjoint (c : Ctx) (x : Form) (h : WF2 c x) : WF2 c (adjoint x) := by
  intro u hu
  rw [adjoint_eq] at hu
  obtain ⟨t, ht, rfl⟩ := List.mem_map.mp hu
  exact wft_adjT (h t ht)

theorem phys_of_annAmp_ne_zero (c : Ctx) (t : Term) (s : Occ) (hs : Phys c s) (hf : FinPow c t)
    (h : annAmp c t s ≠ 0) : Phys c (tgt t s) := by
  refine ⟨valid_of_annAmp_ne_zero c t s hs.toValid hf h, fun i hi hb => ?_⟩
  have hm := (prod_ne_zero_iff.mp h) i (mem_range.mpr hi)
  rw [get_tgt hi hs.len]
  by_contra hneg
  rw [modeAmp_boson hb] at hm
  exact hm (falling_eq_zero (hs.nonneg i hi hb) (by omega))

theorem ampF'_eq_zero_of_not_phys {c : Ctx} {z : Form} {s m : Occ} (hz : WF2 c z) (hs : Phys c s)
    (hm : ¬ Phys c m) : ampF' c z s m = 0 :=
  ampF'_eq_zero_of_unreached fun w hw h' e => hm (e ▸ phys_of_annAmp_ne_zero c w s hs (hz w hw).fin h')

theorem ofInt_norm_ne_zero (c : Ctx) (s : Occ) : ofInt (norm c s) ≠ 0 :=
  fun h => (norm_pos c s).ne' (Int.cast_eq_zero.mp (congrArg GRat.re h))

/-- **C08, the adjoint reverses products**: `(x·y)† = y†·x†` as kernels on physical states. -/
theorem adjoint_mul (c : Ctx) (hlast : FermionsLast c) (x y : Form) (s s'' : Occ)
    (hx : WF2 c x) (hy : WF2 c y) (hs : Phys c s) (hs'' : Phys c s'') :
    ampF' c (adjoint (mul c x y)) s'' s = ampF' c (mul c (adjoint y) (adjoint x)) s'' s := by
  -- both products are sums over a common set of intermediate states (`kernel_comp`); compare term by term
  apply mul_right_cancel₀ (ofInt_norm_ne_zero c s)
  rw [rep_adjoint c _ s s'' hs hs'',
    kernel_comp c hlast x y s s'' hx hy hs.toValid (targets y s ∪ targets (adjoint x) s'') subset_union_left,
    kernel_comp c hlast (adjoint y) (adjoint x) s'' s (wf2_adjoint c y hy) (wf2_adjoint c x hx) hs''.toValid
      (targets y s ∪ targets (adjoint x) s'') subset_union_right,
    conj_finset_sum, sum_mul, sum_mul]
  apply sum_congr rfl
  intro m _
  by_cases hm : Phys c m
  · -- both factors turn round between physical states; the norm of the intermediate state cancels
    have h1 := rep_adjoint c x m s'' hm hs''
    have h2 := rep_adjoint c y s m hs hm
    apply mul_right_cancel₀ (ofInt_norm_ne_zero c m)
    rw [conj_mul]
    linear_combination -(ampF' c (adjoint y) m s * ofInt (norm c s)) * h1
      - ((ampF' c x m s'').conj * ofInt (norm c s'')) * h2
  · rw [ampF'_eq_zero_of_not_phys hy hs hm, ampF'_eq_zero_of_not_phys (wf2_adjoint c x hx) hs'' hm, zero_mul,
      conj_zero, zero_mul, zero_mul, zero_mul]

/-- non-vacuity: the vacuum and a one-boson state of a boson ⊗ fermion context are physical -/
example : Phys ⟨[.boson, .fermion]⟩ [0, 0] ∧ Phys ⟨[.boson, .fermion]⟩ [1, 1] :=
  ⟨⟨⟨rfl, by decide⟩, by decide⟩, ⟨⟨rfl, by decide⟩, by decide⟩⟩

end Nof
end Pyma
#print axioms Pyma.Nof.rep_adjoint
#print axioms Pyma.Nof.adjoint_mul
