/-
C19 / C12 "exactly once": in a successful execution that never pops, no element is evaluated twice —
the evaluation log has no duplicates, whatever the request history.  By induction over the rules `Runs` of `MachineThm`
(`Runs.once`): an element is logged only when its cell is missing, and without `pop` a cell once there stays.
-/
import PymaVerif.Proofs.MachineThm

namespace Pyma
namespace Machine

variable {V : Type}

inductive NoPop : Script V → Prop where
  | pure (v) : NoPop (.pure v)
  | fail (e) : NoPop (.fail e)
  | get (s i k) : (∀ v, NoPop (k v)) → NoPop (.get s i k)
  | contains (s i k) : (∀ b, NoPop (k b)) → NoPop (.contains s i k)
  | user (cb arg k) : (∀ v, NoPop (k v)) → NoPop (.user cb arg k)

def LogInv (w : World V) : Prop :=
  w.log.Nodup ∧ ∀ k ∈ w.log, w.get k.1 k.2 ≠ none

theorem LogInv.set_some {w : World V} (h : LogInv w) (s i) (c : Cell V) : LogInv (w.set s i (some c)) := by
  refine ⟨h.1, fun k hk => ?_⟩
  rw [World.get_set]
  split
  · nofun
  · exact h.2 k hk

theorem LogInv.enter {w : World V} (h : LogInv w) {s i} (hc : w.get s i = none) : LogInv (w.enter s i) := by
  refine ⟨List.nodup_append.mpr ⟨h.1, List.pairwise_singleton _ _, fun a ha b hb => ?_⟩, fun k hk => ?_⟩
  · cases List.mem_singleton.mp hb
    exact fun e => h.2 a ha (e ▸ hc)
  · rcases List.mem_append.mp hk with hk | hk
    · exact (h.set_some s i .pending).2 k hk
    · cases List.mem_singleton.mp hk
      show (w.set s i (some .pending)).get s i ≠ none
      rw [World.get_set, if_pos rfl]
      nofun

theorem Runs.once {S : Sys V} (hdefs : ∀ s i, NoPop (S.defs s i)) {sc : Script V} {w : World V} {r : Res V} (h : Runs S sc w r) :
    ∀ v, r.1 = .ok v → NoPop sc → LogInv w → LogInv r.2 := by
  induction h with
  | fuel | fail | fault | cycle | evalErr => exact nofun
  | pure => exact fun _ _ _ hw => hw
  | pop => exact fun _ _ hnp => nomatch hnp
  | contains _ ih => exact fun v hv (.contains _ _ _ hk) hw => ih v hv (hk _) hw
  | user _ _ ih => exact fun v hv (.user _ _ _ hk) hw => ih v hv (hk _) hw
  | hit _ _ ih => exact fun v hv (.get _ _ _ hk) hw => ih v hv (hk _) hw
  | @evalOk s i k w v' w' r hc _ _ ihd ihk =>
    intro v hv (.get _ _ _ hk) hw
    have hw' := ihd v' rfl (hdefs s i) (hw.enter hc)
    exact ihk v hv (hk _) (hw'.set_some s i _)

/-- **exactly once**: starting from an empty world, after any successful pop-free execution the list
of evaluations that were started contains no element twice -/
theorem log_nodup (S : Sys V) (hdefs : ∀ s i, NoPop (S.defs s i)) (f : Nat) (sc : Script V) (hsc : NoPop sc)
    (v : V) (h : (run S f sc ⟨[], 0, []⟩).1 = .ok v) : (run S f sc ⟨[], 0, []⟩).2.log.Nodup :=
  ((runs S f sc _).once hdefs v h hsc ⟨List.nodup_nil, nofun⟩).1

end Machine
end Pyma
#print axioms Pyma.Machine.log_nodup
