/-
C08, the algebra laws.  On a state `s` the signed kernel `ampF' c x s ·` of a form is a finite sum of point
masses, one per monomial `t`: `specAmpS c t s` at `tgt t s` (`ampS'_eq`).  So it is additive in the form, a
function of the number operators has a diagonal kernel, and a sum over the monomials is the sum against the
kernel over any finite set of states that contains `targets x s` (`sum_ampF'_mul`).  With the
product theorem `rep_mul3` this makes multiplication composition of kernels,

  `(s''| x·y |s) = Σ_{m ∈ M} (m| y |s) · (s''| x |m)`        for every finite `M ⊇ targets y s`,

and associativity follows by exchanging two finite sums.
-/
import PymaVerif.Proofs.NofFermion

namespace Pyma
namespace Nof
open Finset

theorem ampF'_nil (c : Ctx) (s s' : Occ) : ampF' c [] s s' = 0 := rfl

theorem ampF'_cons (c : Ctx) (t : Term) (x : Form) (s s' : Occ) :
    ampF' c (t :: x) s s' = ampS' c t s s' + ampF' c x s s' := List.sum_cons

theorem ampF'_singleton (c : Ctx) (t : Term) (s s' : Occ) : ampF' c [t] s s' = ampS' c t s s' := add_zero _

theorem rep_add (c : Ctx) (x y : Form) (s s' : Occ) :
    ampF' c (add x y) s s' = ampF' c x s s' + ampF' c y s s' := by
  unfold ampF' add
  rw [List.map_append, List.sum_append]

theorem rep_neg (c : Ctx) (x : Form) (s s' : Occ) : ampF' c (neg x) s s' = -ampF' c x s s' := by
  rw [neg_eq_neg_one_mul]
  refine ampF'_map (f := negIf true) fun t _ => ?_
  show ofInt (sgn c t s) * ampS c (negIf true t) s s' = -1 * (ofInt (sgn c t s) * ampS c t s s')
  rw [ampS_negIf]
  simp

theorem wf2_add (c : Ctx) (x y : Form) (hx : WF2 c x) (hy : WF2 c y) : WF2 c (add x y) := by
  intro u hu
  rcases List.mem_append.mp hu with h | h
  · exact hx u h
  · exact hy u h

/-- a function `h(N)` of the number operators as a form: the `H_ii`, `H_jj` of `solve_scalar` -/
def numberForm (c : Ctx) (h : Occ → GRat) : Form := [{ powers := List.replicate c.n 0, coeff := h }]

def numTerm (c : Ctx) (h : Occ → GRat) : Term := { powers := List.replicate c.n 0, coeff := h }

theorem pw_numTerm (c : Ctx) (h : Occ → GRat) (j : Nat) : pw (numTerm c h) j = 0 := get_replicate c.n j

theorem tgt_numTerm (c : Ctx) (h : Occ → GRat) (s : Occ) : tgt (numTerm c h) s = s := by
  refine occ_ext (length_tgt _ s) rfl fun j hj => ?_
  rw [get_tgt hj rfl, pw_numTerm, sub_zero]

theorem specAmpS_numTerm (c : Ctx) (h : Occ → GRat) (s : Occ) : specAmpS c (numTerm c h) s = h s := by
  have hmid : mid (numTerm c h) s = s := by
    refine occ_ext (length_mid _ s) rfl fun j hj => ?_
    rw [get_mid hj rfl, pw_numTerm]; simp
  have hann : annAmp c (numTerm c h) s = 1 :=
    Finset.prod_eq_one fun j _ => by rw [pw_numTerm, modeAmp_zero]
  have hsig : sigma c (numTerm c h) s = 0 := by
    rw [sigma_eq_sum]
    exact Finset.sum_eq_zero fun k _ => by simp [pw_numTerm]
  unfold specAmpS specAmp sgn
  rw [hmid, hann, hsig, sgnI_zero, ofInt_one, one_mul, one_mul]
  rfl

theorem ampF'_numberForm (c : Ctx) (h : Occ → GRat) (s s' : Occ) :
    ampF' c (numberForm c h) s s' = if s = s' then h s else 0 := by
  rw [show numberForm c h = [numTerm c h] from rfl, ampF'_singleton, ampS'_eq, tgt_numTerm, specAmpS_numTerm]

theorem wf2_numberForm (c : Ctx) (h : Occ → GRat) : WF2 c (numberForm c h) := by
  intro t ht
  simp only [numberForm, List.mem_singleton] at ht
  subst ht
  refine ⟨by simp, ?_, ?_⟩
  · intro i _ _; right; left; exact get_replicate c.n i
  · intro i _ _ hp; exact absurd (get_replicate c.n i) hp

theorem rep_scalar (c : Ctx) (z : GRat) (s s' : Occ) (hs : s.length = c.n) :
    ampF' c (scalar c z) s s' = if s = s' then z else 0 :=
  ampF'_numberForm c (fun _ => z) s s'

theorem wf2_scalar (c : Ctx) (z : GRat) : WF2 c (scalar c z) := wf2_numberForm c (fun _ => z)

theorem wf2_mul (c : Ctx) (hlast : FermionsLast c) (x y : Form) (hx : WF2 c x) (hy : WF2 c y) :
    WF2 c (mul c x y) := by
  rw [mul_eq]
  intro u hu
  obtain ⟨t, ht, hut⟩ := List.mem_flatMap.mp hu
  exact wf2_mulTerm (hy t ht).fin _ (fun i hi => List.mem_range.mp hi) x hx u hut

def targets (y : Form) (s : Occ) : Finset Occ := (y.map fun w => tgt w s).toFinset

theorem mem_targets {y : Form} (s : Occ) {w : Term} (hw : w ∈ y) : tgt w s ∈ targets y s := by
  unfold targets
  rw [List.mem_toFinset]
  exact List.mem_map.mpr ⟨w, hw, rfl⟩

/-- A sum of point masses, `a w` at `p w` for `w` in a list, summed against `g` over a finite set that contains
the points. -/
theorem sum_pointMass_mul {α β : Type} [DecidableEq β] (l : List α) (p : α → β) (a : α → GRat) (g : β → GRat)
    (M : Finset β) (hM : ∀ w ∈ l, p w ∈ M) :
    (l.map fun w => a w * g (p w)).sum = ∑ m ∈ M, (l.map fun w => if p w = m then a w else 0).sum * g m := by
  induction l with
  | nil => simp
  | cons w l ih =>
    simp only [List.map_cons, List.sum_cons, add_mul, sum_add_distrib, ite_mul, zero_mul]
    rw [ih fun v hv => hM v (List.mem_cons_of_mem _ hv), sum_ite_eq, if_pos (hM w List.mem_cons_self)]

theorem sum_ampF'_mul (c : Ctx) {y : Form} {s : Occ} (g : Occ → GRat) {M : Finset Occ} (hM : targets y s ⊆ M) :
    (y.map fun t => specAmpS c t s * g (tgt t s)).sum = ∑ m ∈ M, ampF' c y s m * g m := by
  simp only [ampF', ampS'_eq]
  exact sum_pointMass_mul y (tgt · s) (specAmpS c · s) g M fun w hw => hM (mem_targets s hw)

theorem kernel_comp (c : Ctx) (hlast : FermionsLast c) (x y : Form) (s s'' : Occ) (hx : WF2 c x) (hy : WF2 c y)
    (hs : Valid c s) (M : Finset Occ) (hM : targets y s ⊆ M) :
    ampF' c (mul c x y) s s'' = ∑ m ∈ M, ampF' c y s m * ampF' c x m s'' := by
  rw [rep_mul3 c hlast x y s s'' hx hy hs]
  exact sum_ampF'_mul c (fun m => ampF' c x m s'') hM

theorem ampF'_eq_zero_of_unreached {c : Ctx} {z : Form} {s m : Occ}
    (h : ∀ w ∈ z, annAmp c w s ≠ 0 → tgt w s ≠ m) : ampF' c z s m = 0 := by
  unfold ampF'
  apply List.sum_eq_zero
  intro a ha
  obtain ⟨w, hw, rfl⟩ := List.mem_map.mp ha
  by_cases htm : tgt w s = m
  · rw [ampS', ampS_eq_zero (of_not_not fun h' => h w hw h' htm), mul_zero]
  · rw [ampS', ampS, if_neg htm, mul_zero]

theorem ampF'_eq_zero_of_invalid {c : Ctx} {z : Form} {s m : Occ} (hz : WF2 c z) (hs : Valid c s)
    (hm : ¬ Valid c m) : ampF' c z s m = 0 :=
  ampF'_eq_zero_of_unreached fun w hw h' e => hm (e ▸ valid_of_annAmp_ne_zero c w s hs (hz w hw).fin h')

theorem rep_mul_add (c : Ctx) (hlast : FermionsLast c) (x y z : Form) (s s'' : Occ)
    (hx : WF2 c x) (hy : WF2 c y) (hz : WF2 c z) (hs : Valid c s) :
    ampF' c (mul c x (add y z)) s s'' = ampF' c (mul c x y) s s'' + ampF' c (mul c x z) s s'' := by
  rw [rep_mul3 c hlast x (add y z) s s'' hx (wf2_add c y z hy hz) hs, rep_mul3 c hlast x y s s'' hx hy hs,
    rep_mul3 c hlast x z s s'' hx hz hs]
  unfold add
  rw [List.map_append, List.sum_append]

theorem rep_add_mul (c : Ctx) (hlast : FermionsLast c) (x y z : Form) (s s'' : Occ)
    (hx : WF2 c x) (hy : WF2 c y) (hz : WF2 c z) (hs : Valid c s) :
    ampF' c (mul c (add x y) z) s s'' = ampF' c (mul c x z) s s'' + ampF' c (mul c y z) s s'' := by
  rw [rep_mul3 c hlast (add x y) z s s'' (wf2_add c x y hx hy) hz hs, rep_mul3 c hlast x z s s'' hx hz hs,
    rep_mul3 c hlast y z s s'' hy hz hs, ← List.sum_map_add]
  congr 1
  apply List.map_congr_left
  intro t _
  rw [rep_add]; ring

/-- **C08, associativity**: `(x·y)·z` and `x·(y·z)` have the same kernel on every valid state. -/
theorem rep_mul_assoc (c : Ctx) (hlast : FermionsLast c) (x y z : Form) (s s'' : Occ)
    (hx : WF2 c x) (hy : WF2 c y) (hz : WF2 c z) (hs : Valid c s) :
    ampF' c (mul c (mul c x y) z) s s'' = ampF' c (mul c x (mul c y z)) s s'' := by
  have hxy := wf2_mul c hlast x y hx hy
  have hyz := wf2_mul c hlast y z hy hz
  let M := targets z s
  let M' := (M.biUnion fun m => targets y m) ∪ targets (mul c y z) s
  rw [kernel_comp c hlast (mul c x y) z s s'' hxy hz hs M (Subset.refl _),
    kernel_comp c hlast x (mul c y z) s s'' hx hyz hs M' subset_union_right]
  have hL : ∀ m ∈ M, ampF' c z s m * ampF' c (mul c x y) m s'' =
      ampF' c z s m * ∑ m' ∈ M', ampF' c y m m' * ampF' c x m' s'' := by
    intro m hm
    by_cases hv : Valid c m
    · rw [kernel_comp c hlast x y m s'' hx hy hv M'
        (subset_union_left.trans' (subset_biUnion_of_mem (fun m => targets y m) hm))]
    · rw [ampF'_eq_zero_of_invalid hz hs hv]; ring
  rw [sum_congr rfl hL]
  have hR : ∀ m' ∈ M', ampF' c (mul c y z) s m' * ampF' c x m' s'' =
      ∑ m ∈ M, ampF' c z s m * ampF' c y m m' * ampF' c x m' s'' := by
    intro m' _
    rw [kernel_comp c hlast y z s m' hy hz hs M (Subset.refl _), sum_mul]
  rw [sum_congr rfl hR, sum_comm]
  apply sum_congr rfl
  intro m _
  rw [mul_sum]
  apply sum_congr rfl
  intro m' _
  ring

theorem ampF'_mul_numberForm {c : Ctx} (hlast : FermionsLast c) {x : Form} (h : Occ → GRat) {s : Occ} (s'' : Occ)
    (hx : WF2 c x) (hs : Valid c s) :
    ampF' c (mul c x (numberForm c h)) s s'' = h s * ampF' c x s s'' := by
  rw [rep_mul3 c hlast x _ s s'' hx (wf2_numberForm c h) hs]
  show ([numTerm c h].map fun t => specAmpS c t s * ampF' c x (tgt t s) s'').sum = _
  simp only [List.map_cons, List.map_nil, List.sum_cons, List.sum_nil, add_zero, tgt_numTerm, specAmpS_numTerm]

theorem ampF'_numberForm_mul {c : Ctx} (hlast : FermionsLast c) {x : Form} (h : Occ → GRat) {s : Occ} (s'' : Occ)
    (hx : WF2 c x) (hs : Valid c s) :
    ampF' c (mul c (numberForm c h) x) s s'' = h s'' * ampF' c x s s'' := by
  rw [kernel_comp c hlast _ x s s'' (wf2_numberForm c h) hx hs _ (subset_insert s'' (targets x s))]
  simp only [ampF'_numberForm, mul_ite, mul_zero]
  rw [sum_ite_eq', if_pos (mem_insert_self _ _), mul_comm]

theorem rep_mul_one (c : Ctx) (hlast : FermionsLast c) (x : Form) (s s'' : Occ) (hx : WF2 c x) (hs : Valid c s) :
    ampF' c (mul c x (scalar c 1)) s s'' = ampF' c x s s'' :=
  (ampF'_mul_numberForm hlast (fun _ => 1) s'' hx hs).trans (one_mul _)

theorem rep_one_mul (c : Ctx) (hlast : FermionsLast c) (x : Form) (s s'' : Occ) (hx : WF2 c x) (hs : Valid c s) :
    ampF' c (mul c (scalar c 1) x) s s'' = ampF' c x s s'' :=
  (ampF'_numberForm_mul hlast (fun _ => 1) s'' hx hs).trans (one_mul _)

theorem npow_succ_succ (c : Ctx) (x : Form) (k : Nat) : npow c x (k + 2) = mul c (npow c x (k + 1)) x := rfl

theorem wf2_npow (c : Ctx) (hlast : FermionsLast c) (x : Form) (hx : WF2 c x) : ∀ k, WF2 c (npow c x k)
  | 0 => wf2_scalar c 1
  | 1 => hx
  | k + 2 => by
    rw [npow_succ_succ]
    exact wf2_mul c hlast _ x (wf2_npow c hlast x hx (k + 1)) hx

/-- **C08, integer powers**: `x^(k+1) = x^k · x` as kernels for every `k`, with `x^0 = 1` -/
theorem rep_npow_succ (c : Ctx) (hlast : FermionsLast c) (x : Form) (k : Nat) (s s'' : Occ) (hx : WF2 c x)
    (hs : Valid c s) :
    ampF' c (npow c x (k + 1)) s s'' = ampF' c (mul c (npow c x k) x) s s'' := by
  cases k with
  | zero => exact (rep_one_mul c hlast x s s'' hx hs).symm
  | succ k => rfl

end Nof
end Pyma
#print axioms Pyma.Nof.rep_mul_assoc
#print axioms Pyma.Nof.rep_mul_add
#print axioms Pyma.Nof.rep_add_mul
#print axioms Pyma.Nof.rep_npow_succ
#print axioms Pyma.Nof.rep_mul_one
