/-
Non-vacuity: concrete problems over ℚ that satisfy `Accepted`, so that C01/C02 apply to them.
-/
import PymaVerif.Proofs.LevelsThm
import PymaVerif.Proofs.WitnessProblems

namespace Pyma
namespace BlockDiag
namespace Problem

instance : LawfulThresholds ℚ where
  absGt_neg := by
    intro x t
    simp only [Thresholds.absGt, neg_neg, Bool.or_comm]
  absGt_ne := by
    intro x t ht h hx
    subst hx
    simp only [Thresholds.absGt, neg_zero, Bool.or_self, decide_eq_true_eq] at h
    exact absurd ht (not_le.mpr h)

attribute [local instance] Scalar.ofField

theorem w3_accepted : w3.Accepted :=
  InputOK.accepted (InputFacts.inputOK (by decide +kernel))

example : w3.sr "U†" * w3.sr "H" * w3.sr "U" = w3.sr "H_tilde" :=
  C01 w3_accepted (by norm_num)

theorem w1_accepted : w1.Accepted :=
  InputOK.accepted (InputFacts.inputOK (by decide +kernel))

example : w1.sr "U†" * w1.sr "U" = 1 ∧ w1.sr "U" * w1.sr "U†" = 1 ∧ star (w1.sr "U") = w1.sr "U†" :=
  C02 w1_accepted (by norm_num)

theorem wd_masks : wd.MasksOK :=
  { (by decide +kernel : wd.InputFacts) with
    masks := ⟨_, rfl⟩
    mask_symmetric := by decide +kernel
    mask_spares_equal_levels := by decide +kernel }

theorem wd_accepted : wd.Accepted := wd_masks.accepted

example : wd.sr "U†" * wd.sr "H" * wd.sr "U" = wd.sr "H_tilde" :=
  C01 wd_accepted (by norm_num)

theorem w2_accepted : w2.Accepted :=
  InputOK.accepted (InputFacts.inputOK (by decide +kernel))

example : w2.twoBlockOptimized = true := by decide
example : w2.sr "U†" * w2.sr "H" * w2.sr "U" = w2.sr "H_tilde" := C01 w2_accepted (by norm_num)

theorem wchain_core : wchain.AcceptedCore :=
  (InputOK.accepted (InputFacts.inputOK (by decide +kernel))).core

theorem wlist_input : wlist.InputOK :=
  InputFacts.inputOK (by decide +kernel)

example : wlist.keptE 0 1 = true ∧ wlist.keptE 0 2 = false := by decide +kernel

theorem wall_input : wall.InputOK :=
  InputFacts.inputOK (by decide +kernel)

example : wchain.equalEigs 0 2 = false ∧ wchain.keptE 0 2 = true ∧ wchain.keptE 0 3 = false := by decide +kernel

end Problem
end BlockDiag
end Pyma
#print axioms Pyma.BlockDiag.Problem.wd_accepted
