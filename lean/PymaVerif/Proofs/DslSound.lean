/-
Soundness of the executable evaluator `getElem`, and of its memo-free variant `evalNC`, w.r.t. the
relational semantics.  The evaluator threads the memo table by hand (`Cache → Except Err (α × Cache)`);
`Sound I m Q` says of such a step `m` that, from a table satisfying `I` (here `CacheOK`: every cached value is
derivable), what it returns satisfies `Q` and the table it leaves satisfies `I`; `Sound.bind` is the sequencing.
Each branch of the evaluator is then the rule of the semantics it mirrors.  Core Lean + Std only.
-/
import PymaVerif.Proofs.DslDen

namespace Pyma
namespace Dsl

variable {K : Type} [Scalar K] {p : Prog} {env : Env K}

def CacheOK (p : Prog) (env : Env K) (c : Cache K) : Prop :=
  ∀ x idx v, c.get? (x, idx) = some v → Den p env x idx v

def LookupSound (p : Prog) (env : Env K) (lookup : Lookup K) : Prop :=
  ∀ x idx c v c', CacheOK p env c → lookup x idx c = .ok (v, c') →
    Den p env x idx v ∧ CacheOK p env c'

omit [Scalar K] in
theorem liftE_ok {α} {x : Except Err α} {c c' : Cache K} {v : α} :
    liftE x c = .ok (v, c') ↔ x = .ok v ∧ c' = c := by
  cases x with
  | ok a => simp [liftE, eq_comm (a := c)]
  | error e => simp [liftE]

def Sound {α : Type} (I : Cache K → Prop) (m : Cache K → Res K α) (Q : α → Prop) : Prop :=
  ∀ c v c', I c → m c = .ok (v, c') → Q v ∧ I c'

section
omit [Scalar K]
variable {α β : Type} {I : Cache K → Prop} {m n : Cache K → Res K α} {Q R : α → Prop}

theorem Sound.pure {v : α} (h : Q v) : Sound I (fun c => .ok (v, c)) Q := by
  intro c w c' hc e
  cases e
  exact ⟨h, hc⟩

theorem Sound.error {e : Err} : Sound I (fun _ => .error e) Q :=
  fun _ _ _ _ h => nomatch h

theorem Sound.imp (h : Sound I m Q) (hQ : ∀ v, Q v → R v) : Sound I m R :=
  fun c v c' hc e => ⟨hQ v (h c v c' hc e).1, (h c v c' hc e).2⟩

theorem Sound.liftE {x : Except Err α} : Sound I (liftE x) (fun v => x = .ok v) :=
  fun _ _ _ hc e => ⟨(liftE_ok.mp e).1, (liftE_ok.mp e).2 ▸ hc⟩

theorem Sound.ite {P : Prop} [Decidable P] (ht : P → Sound I m Q) (hf : ¬P → Sound I n Q) :
    Sound I (fun c => if P then m c else n c) Q := by
  intro c
  split
  · exact ht ‹_› c
  · exact hf ‹_› c

/-- Stated per type of the first value (`bindL`: a list of values), so that its `match` is the one of the evaluator's source: for a
general type the matcher has more parameters, and unification does not identify the two. -/
theorem Sound.bind {m : Cache K → Res K (SVal K)} {Q : SVal K → Prop} {k : SVal K → Cache K → Res K β} {R : β → Prop}
    (hm : Sound I m Q) (hk : ∀ v, Q v → Sound I (k v) R) :
    Sound I (fun c => match m c with | .ok (v, c) => k v c | .error e => .error e) R := by
  intro c r c' hc e
  cases hmc : m c with
  | error e' => simp only [hmc] at e; cases e
  | ok vc =>
    simp only [hmc] at e
    obtain ⟨hv, hc1⟩ := hm c vc.1 vc.2 hc hmc
    exact hk vc.1 hv vc.2 r c' hc1 e

theorem Sound.bindL {m : Cache K → Res K (List (SVal K))} {Q : List (SVal K) → Prop} {k : List (SVal K) → Cache K → Res K β}
    {R : β → Prop} (hm : Sound I m Q) (hk : ∀ v, Q v → Sound I (k v) R) :
    Sound I (fun c => match m c with | .ok (v, c) => k v c | .error e => .error e) R := by
  intro c r c' hc e
  cases hmc : m c with
  | error e' => simp only [hmc] at e; cases e
  | ok vc =>
    simp only [hmc] at e
    obtain ⟨hv, hc1⟩ := hm c vc.1 vc.2 hc hmc
    exact hk vc.1 hv vc.2 r c' hc1 e

theorem Sound.bindE {x : Except Err (SVal K)} {k : SVal K → Cache K → Res K β} {R : β → Prop}
    (hk : ∀ v, x = .ok v → Sound I (k v) R) :
    Sound I (fun c => match x with | .ok v => k v c | .error e => .error e) R := by
  cases x with
  | error e => exact .error
  | ok v => exact hk v rfl

end

variable {lookup : Lookup K} (hl : LookupSound p env lookup)

include hl in
theorem evalExpr_sound : ∀ (e : Expr) (idx : Idx), Sound (CacheOK p env) (evalExpr env lookup idx e) (DenE p env e idx) := by
  intro e
  induction e with
  | ser x => exact fun idx => Sound.imp (hl x idx) fun v => .ser
  | adj x => exact fun idx => Sound.bind (hl x idx.swap) fun v hv => .pure (.adj hv)
  | neg e ih => exact fun idx => (ih idx).bind fun v hv => Sound.liftE.imp fun w => .neg hv
  | add a b iha ihb =>
    exact fun idx => (iha idx).bind fun x hx => (ihb idx).bind fun y hy => Sound.liftE.imp fun w => .add hx hy
  | sub a b iha ihb =>
    exact fun idx => (iha idx).bind fun x hx => (ihb idx).bind fun y hy => Sound.liftE.imp fun w => .sub hx hy
  | divInt e k ih => exact fun idx => (ih idx).bind fun v hv => Sound.liftE.imp fun w => .divInt hv
  | callSer f x => exact fun idx => Sound.liftE.imp fun w => .callSer
  | callExpr f e ih => exact fun idx => (ih idx).bind fun v hv => Sound.liftE.imp fun w => .callExpr hv
  | zero => exact fun idx => .pure .zero
  | ite fl t e iht ihe =>
    exact fun idx => .ite (fun hf => (iht idx).imp fun v => .iteT hf)
      fun hf => (ihe idx).imp fun v => .iteF (Bool.eq_false_iff.mpr hf)

include hl in
theorem addExpr_sound (e : Expr) (idx : Idx) (wrap : SVal K → SVal K) (acc : SVal K) :
    Sound (CacheOK p env) (addExpr env lookup idx e wrap acc) fun r => ∃ v, DenE p env e idx v ∧ vadd acc (wrap v) = .ok r :=
  (evalExpr_sound hl e idx).bind fun v hv => Sound.liftE.imp fun _ hr => ⟨v, hv, hr⟩

include hl in
theorem evalBody_sound (self : String) (idx : Idx) :
    ∀ (body : List Stmt) (acc : SVal K), Sound (CacheOK p env) (evalBody env lookup self idx body acc) (DenB p env self idx body acc)
  | [], acc => .pure .bnil
  | .marker anti :: rest, acc =>
    .ite (fun hgt => Sound.bind (hl self idx.swap) fun v hv => Sound.liftE.imp fun r => .markerHit hgt hv)
      fun hgt => (evalBody_sound self idx rest acc).imp fun r => .markerMiss hgt
  | .clause .lower e :: rest, acc =>
    .ite (fun hgt => (addExpr_sound hl e idx id acc).imp fun r ⟨v, hv, hr⟩ => .lowerHit hgt hv hr)
      fun hgt => (evalBody_sound self idx rest acc).imp fun r => .lowerMiss hgt
  | .clause .diagonal e :: rest, acc =>
    .ite (fun hd => (addExpr_sound hl e idx _ acc).bind fun acc' ⟨v, hv, ha⟩ =>
        (evalBody_sound self idx rest acc').imp fun r => .diagHit hd hv ha)
      fun hd => (evalBody_sound self idx rest acc).imp fun r => .diagMiss (Bool.eq_false_iff.mpr hd)
  | .clause .offdiagonal e :: rest, acc =>
    .ite (fun hd => (addExpr_sound hl e idx id acc).bind fun acc' ⟨v, hv, ha⟩ =>
        (evalBody_sound self idx rest acc').imp fun r => .offHit hd hv ha)
      fun hd => by
        have hd := Bool.eq_false_iff.mpr hd
        cases hod : env.offdiag with
        | some od =>
          exact (addExpr_sound hl e idx _ acc).bind fun acc' ⟨v, hv, ha⟩ =>
            (evalBody_sound self idx rest acc').imp fun r => .offWrap hd hod hv ha
        | none => exact (evalBody_sound self idx rest acc).imp fun r => .offSkip hd hod
  | .clause .default e :: rest, acc =>
    (addExpr_sound hl e idx id acc).bind fun acc' ⟨v, hv, ha⟩ =>
      (evalBody_sound self idx rest acc').imp fun r => .default hv ha

include hl in
theorem evalPairs_sound (a b : String) (idx : Idx) :
    ∀ (ps : List (Nat × List Nat × List Nat)) (acc : SVal K),
      Sound (CacheOK p env) (evalPairs lookup a b idx ps acc) (DenP p env a b idx ps acc)
  | [], acc => .pure .pnil
  | (m, na, nb) :: rest, acc => by
    have ih := evalPairs_sound a b idx rest
    have both : ∀ {l r : SVal K}, Den p env a ⟨idx.i, m, na⟩ l → l.isZeroS = false → Den p env b ⟨m, idx.j, nb⟩ r →
        r.isZeroS = false → Sound (CacheOK p env) (fun c => match vadd acc (vmul l r) with
          | .ok acc => evalPairs lookup a b idx rest acc c
          | .error e => .error e) (DenP p env a b idx ((m, na, nb) :: rest) acc) :=
      fun hl' hz hr hzr => .bindE fun acc' ha => (ih acc').imp fun r => .both hl' hz hr hzr ha
    refine .ite (fun hcost => ?_) fun hcost => ?_
    · exact Sound.bind (hl a _) fun l hl' => .ite (fun hz => (ih acc).imp fun r => .leftZero hcost hl' hz)
        fun hz => Sound.bind (hl b _) fun r hr => .ite
          (fun hzr => (ih acc).imp fun _ => .leftThenRightZero hcost hl' (Bool.eq_false_iff.mpr hz) hr hzr)
          fun hzr => both hl' (Bool.eq_false_iff.mpr hz) hr (Bool.eq_false_iff.mpr hzr)
    · exact Sound.bind (hl b _) fun r hr => .ite (fun hzr => (ih acc).imp fun _ => .rightZero hcost hr hzr)
        fun hzr => Sound.bind (hl a _) fun l hl' => .ite
          (fun hz => (ih acc).imp fun _ => .rightThenLeftZero hcost hr (Bool.eq_false_iff.mpr hzr) hl' hz)
          fun hz => both hl' (Bool.eq_false_iff.mpr hz) hr (Bool.eq_false_iff.mpr hzr)

include hl in
theorem compute_sound (x : String) (idx : Idx) : Sound (CacheOK p env) (compute p env lookup x idx) (Den p env x idx) := by
  unfold compute
  split
  · exact .pure (.input ‹_›)
  · split
    · exact .pure (.pinned ‹_› ‹_›)
    · exact (evalBody_sound hl x idx _ _).imp fun v => .body ‹_› ‹_›
  · exact (evalPairs_sound hl _ _ idx _ _).imp fun v => .product ‹_›
  · exact .error

theorem cacheOK_insert {c : Cache K} {x : String} {idx : Idx} {v : SVal K}
    (hc : CacheOK p env c) (hd : Den p env x idx v) : CacheOK p env (c.insert (x, idx) v) := by
  intro y jdx w hw
  rw [Std.HashMap.get?_insert] at hw
  split at hw
  · rename_i heq
    have : (x, idx) = (y, jdx) := by simpa using heq
    cases this
    cases hw
    exact hd
  · exact hc _ _ _ hw

theorem getElem_sound (p : Prog) (env : Env K) : ∀ fuel, LookupSound p env (getElem p env fuel)
  | 0 => fun _ _ _ _ _ _ h => nomatch h
  | fuel + 1 => by
    intro x idx c v c' hc h
    simp only [getElem] at h
    split at h
    · rename_i w hw
      cases h
      exact ⟨hc _ _ _ hw, hc⟩
    · split at h
      · rename_i w c1 heq
        cases h
        obtain ⟨hd, hc1⟩ := compute_sound (getElem_sound p env fuel) _ _ _ _ _ hc heq
        exact ⟨hd, cacheOK_insert hc1 hd⟩
      · cases h

theorem cacheOK_empty : CacheOK p env ({} : Cache K) := by
  intro x idx v h
  simp at h

/-- no memo table, hence no hashing: the kernel can run it -/
def evalNC (p : Prog) (env : Env K) : Nat → Lookup K
  | 0, _, _, _ => .error .fuel
  | fuel+1, x, idx, c => compute p env (evalNC p env fuel) x idx c

theorem evalNC_sound (p : Prog) (env : Env K) : ∀ fuel, LookupSound p env (evalNC p env fuel)
  | 0 => fun _ _ _ _ _ _ h => nomatch h
  | fuel + 1 => compute_sound (evalNC_sound p env fuel)

end Dsl
end Pyma

#print axioms Pyma.Dsl.getElem_sound
