/-
C05 for the model in terms of a decidable acceptance predicate, and the Hermitian limit: on a
Hermitian accepted problem (with degenerate kept pairs) the non-Hermitian program returns exactly
the series of the Hermitian program.
-/
import PymaVerif.Proofs.NhSeries
import PymaVerif.Proofs.MainUnique

namespace Pyma
namespace BlockDiag
open Dsl Generated MvPowerSeries
namespace Problem

variable {K : Type} [Field K] [StarRing K] [DecidableEq K] [Thresholds K]
attribute [local instance] Scalar.ofField
variable (p : Problem K)

/-- accepted problems of the non-Hermitian mode on which the shipped recurrences are right:
no Hermiticity and no symmetry of the mask is asked, but every kept pair must be degenerate -/
structure AcceptedN : Prop where
  wf : ∀ t ∈ p.terms, t.2.d = p.d
  blocks_lt : ∀ a : Fin p.d, p.blk a.val < p.nblocks
  atol_nonneg : 0 ≤ p.atol
  h0_diag : ∀ t ∈ p.terms, t.1 = p.zeroOrder → ∀ a b : Fin p.d, a ≠ b → t.2.get a.val b.val = 0
  diag_kept : ∀ a : Fin p.d, p.keptE a.val a.val = true
  gap : ∀ a b : Fin p.d, p.keptE a.val b.val = false →
    Scalar.absGt (p.energy a.val - p.energy b.val) p.atol = true
  no_shared : ∀ a b : Fin p.d, p.blk a.val ≠ p.blk b.val →
    Scalar.isClose (p.energy a.val) (p.energy b.val) = false
  kept_deg : ∀ a b : Fin p.d, p.keptE a.val b.val = true → p.energy a.val = p.energy b.val

variable {p}

theorem AcceptedN.ready (h : p.AcceptedN) : Nh.Ready p where
  wf := h.wf
  tot := p.total_nh (noShared_of h.no_shared)
  hN := h.blocks_lt

theorem AcceptedN.accN [LawfulThresholds K] (h : p.AcceptedN) : Nh.AccN p where
  H0_spec := H0_spec_of nonhermitian h.wf h.h0_diag
  diag_kept := h.diag_kept
  gap := h.gap
  absGt_ne := fun x => LawfulThresholds.absGt_ne x p.atol h.atol_nonneg
  kept_deg := h.kept_deg

/-- **C05 (model, partial)** -/
theorem C05_partial [LawfulThresholds K] (h : p.AcceptedN) (h2 : (2 : K) ≠ 0) :
    Nh.sr p "U†" * Nh.sr p "U" = 1 ∧ Nh.sr p "U" * Nh.sr p "U†" = 1 ∧
    Nh.sr p "U†" * Nh.sr p "H" * Nh.sr p "U" = Nh.sr p "H_tilde" ∧
    (∀ m (a b : Fin p.d), p.keptE a.val b.val = false → coeff m (Nh.sr p "H_tilde") a b = 0) ∧
    (∀ m (a b : Fin p.d), p.keptE a.val b.val = true → coeff m (Nh.sr p "U" - Nh.sr p "U†") a b = 0) :=
  ⟨Nh.C05_left_inverse p h.ready h.accN h2, Nh.C05_right_inverse p h.ready h.accN h2,
    Nh.C05_main p h.ready h.accN h2, p.SelS_eq_self_iff.mp (Nh.Ht_sel p h.ready h.accN),
    fun m a b hk => Nh.C05_gauge p h.ready h.accN h2 m a b hk⟩

theorem Accepted.toN (h : p.Accepted)
    (hk : ∀ a b : Fin p.d, p.keptE a.val b.val = true → p.energy a.val = p.energy b.val) : p.AcceptedN :=
  ⟨h.wf, h.blocks_lt, h.atol_nonneg, h.h0_diag, h.diag_kept, h.gap, h.no_shared, hk⟩

variable (p) in
theorem sr_H_eq : Nh.sr p "H" = p.sr "H" := by
  ext m a b
  exact (p.den_H nonhermitian).G_eq.trans (p.den_H main).G_eq.symm

/-- on Hermitian input the non-Hermitian mode returns the Hermitian result -/
theorem C05_hermitian_limit [LawfulThresholds K] (h : p.Accepted)
    (hk : ∀ a b : Fin p.d, p.keptE a.val b.val = true → p.energy a.val = p.energy b.val)
    (h2 : (2 : K) ≠ 0) :
    Nh.sr p "U" = p.sr "U" ∧ Nh.sr p "U†" = p.sr "U†" ∧ Nh.sr p "H_tilde" = p.sr "H_tilde" := by
  have hN := h.toN hk
  have RN := hN.ready
  have AN := hN.accN
  have R := h.ready
  have hH : (p.ctx R h.acc h2).H0 + (p.ctx R h.acc h2).H' = Nh.sr p "H" := by
    rw [p.sr_H_eq, p.ctx_ham R h.acc h2]
  -- the non-Hermitian output solves the non-Hermitian problem
  have sN : TheoremUN.SolN (p.ctx R h.acc h2) (Nh.sr p "U'") (Nh.sr p "U_inv'") := by
    refine ⟨Nh.F1_P p RN, Nh.F1_G p RN, TheoremN.inverse (Nh.hypN p RN AN h2),
      TheoremN.gauge (Nh.hypN p RN AN h2), ?_⟩
    rw [hH, ← Nh.sr_U p RN, ← Nh.sr_Ud p RN, Nh.C05_main p RN AN h2]
    exact sub_eq_zero.mpr (Nh.Ht_sel p RN AN).symm
  -- so does the Hermitian output, with `G = P†`
  have sH : TheoremUN.SolN (p.ctx R h.acc h2) (p.sr "U'") (star (p.sr "U'")) :=
    TheoremUN.Sol.toSolN (p.sol_main R h.sym h.acc h2)
  obtain ⟨eP, eG⟩ := TheoremUN.unique (p.ctx R h.acc h2) p.SelS_idem sN sH
  obtain ⟨_, _, hadj⟩ := C02 h h2
  have hU : Nh.sr p "U" = p.sr "U" := by rw [Nh.sr_U p RN, p.sr_U R, eP]
  have hUd : Nh.sr p "U†" = p.sr "U†" := by
    rw [Nh.sr_Ud p RN, eG, ← hadj, p.sr_U R, star_add, star_one]
  refine ⟨hU, hUd, ?_⟩
  rw [← Nh.C05_main p RN AN h2, ← C01 h h2, hU, hUd, p.sr_H_eq]

end Problem
end BlockDiag
end Pyma
#print axioms Pyma.BlockDiag.Problem.C05_partial
#print axioms Pyma.BlockDiag.Problem.C05_hermitian_limit
