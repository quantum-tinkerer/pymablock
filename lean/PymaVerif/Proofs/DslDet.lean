/-
Every derivation of the reference semantics is replayed by an evaluator given enough fuel; the replay
is written once, for any family of lookups (`Holds.replay`).  Run on the memo-free evaluator it makes the
semantics deterministic: two derivations of one judgement are both found by the same function.  Run on
`getElem` it is completeness: every derivation is found given enough fuel, from any sound cache.
-/
import PymaVerif.Proofs.DslSound

namespace Pyma
namespace Dsl

variable {K : Type} [Scalar K] {p : Prog} {env : Env K}

/-- Total correctness, where `Sound` is partial correctness: run with a lookup `L fuel` of enough fuel, from a
cache satisfying `Inv`, the step `m` returns `v` and leaves such a cache.  The rules are those of `Sound`.  The
fuel bound is chosen before the cache: in a sequence the second step starts from whatever cache the first one
leaves. -/
def Runs {α : Type} (L : Nat → Lookup K) (Inv : Cache K → Prop) (m : Lookup K → Cache K → Res K α)
    (v : α) : Prop :=
  ∃ F, ∀ fuel, F ≤ fuel → ∀ c, Inv c → ∃ c', m (L fuel) c = .ok (v, c') ∧ Inv c'

section
omit [Scalar K]
variable {α β : Type} {L : Nat → Lookup K} {Inv : Cache K → Prop} {m n : Lookup K → Cache K → Res K α} {v : α}
  {r : β}

theorem Runs.pure : Runs L Inv (fun _ c => .ok (v, c)) v :=
  ⟨0, fun _ _ c hc => ⟨c, rfl, hc⟩⟩

theorem Runs.liftE {x : Except Err α} (h : x = .ok v) : Runs L Inv (fun _ => liftE x) v :=
  ⟨0, fun _ _ c hc => ⟨c, liftE_ok.mpr ⟨h, rfl⟩, hc⟩⟩

theorem Runs.pos {P : Prop} [Decidable P] (hP : P) (h : Runs L Inv m v) :
    Runs L Inv (fun lk c => if P then m lk c else n lk c) v := by
  simpa only [if_pos hP] using h

theorem Runs.neg {P : Prop} [Decidable P] (hP : ¬P) (h : Runs L Inv n v) :
    Runs L Inv (fun lk c => if P then m lk c else n lk c) v := by
  simpa only [if_neg hP] using h

/-- As `Sound.bind`, for the `match` of the evaluator's source. -/
theorem Runs.bind {m : Lookup K → Cache K → Res K (SVal K)} {v : SVal K} {k : SVal K → Lookup K → Cache K → Res K β}
    (hm : Runs L Inv m v) (hk : Runs L Inv (k v) r) :
    Runs L Inv (fun lk c => match m lk c with | .ok (v, c) => k v lk c | .error e => .error e) r := by
  obtain ⟨F1, hF1⟩ := hm
  obtain ⟨F2, hF2⟩ := hk
  refine ⟨F1 + F2, fun fuel hf c hc => ?_⟩
  obtain ⟨c1, e1, hc1⟩ := hF1 fuel (by omega) c hc
  simp only [e1]
  exact hF2 fuel (by omega) c1 hc1

theorem Runs.bindE {x : Except Err (SVal K)} {v : SVal K} {k : SVal K → Lookup K → Cache K → Res K β}
    (hx : x = .ok v) (hk : Runs L Inv (k v) r) :
    Runs L Inv (fun lk c => match x with | .ok v => k v lk c | .error e => .error e) r := by
  subst hx
  exact hk

/-- One level up: all fuel arithmetic of a family `L` whose lookup at `fuel + 1` rests on a step with the lookup at `fuel`. -/
theorem Runs.succ {k : Lookup K → Cache K → Res K α} (h : Runs L Inv m v)
    (hk : ∀ fuel c c1, Inv c → m (L fuel) c = .ok (v, c1) → Inv c1 → ∃ c', k (L (fuel + 1)) c = .ok (v, c') ∧ Inv c') :
    Runs L Inv k v := by
  obtain ⟨F, hF⟩ := h
  refine ⟨F + 1, fun fuel hf c hc => ?_⟩
  obtain ⟨f, rfl⟩ : ∃ f, fuel = f + 1 := ⟨fuel - 1, by omega⟩
  obtain ⟨c1, e1, hc1⟩ := hF f (by omega) c hc
  exact hk f c c1 hc e1 hc1

theorem Runs.unique {v' : α} (hv : Runs L (fun _ => True) m v) (hw : Runs L (fun _ => True) m v') :
    v = v' := by
  obtain ⟨F, hF⟩ := hv
  obtain ⟨F', hF'⟩ := hw
  obtain ⟨_, h1, _⟩ := hF (F + F') (Nat.le_add_right _ _) ∅ trivial
  obtain ⟨_, h2, _⟩ := hF' (F + F') (Nat.le_add_left _ _) ∅ trivial
  rw [h1] at h2
  cases h2; rfl

end

@[reducible] def Replay (env : Env K) (L : Nat → Lookup K) (Inv : Cache K → Prop) : J K → SVal K → Prop
  | .elem x idx, v => Runs L Inv (fun lk => lk x idx) v
  | .expr e idx, v => Runs L Inv (fun lk => evalExpr env lk idx e) v
  | .body self idx st acc, v => Runs L Inv (fun lk => evalBody env lk self idx st acc) v
  | .pairs a b idx ps acc, v => Runs L Inv (fun lk => evalPairs lk a b idx ps acc) v

theorem Runs.addExpr {L : Nat → Lookup K} {Inv : Cache K → Prop} {e : Expr} {idx : Idx} {wrap : SVal K → SVal K}
    {acc v r : SVal K} (he : Runs L Inv (fun lk => evalExpr env lk idx e) v) (hr : vadd acc (wrap v) = .ok r) :
    Runs L Inv (fun lk => addExpr env lk idx e wrap acc) r :=
  he.bind (.liftE hr)

/-- Each rule is the branch of the evaluator it mirrors, as in the soundness proof.  `helem` is all that is asked of
the family: a lookup one level up answers whatever `compute` over the lookup below answers. -/
theorem Holds.replay {L : Nat → Lookup K} {Inv : Cache K → Prop}
    (helem : ∀ {x idx v}, Den p env x idx v → ∀ fuel c c1, Inv c → compute p env (L fuel) x idx c = .ok (v, c1) →
      Inv c1 → ∃ c', L (fuel + 1) x idx c = .ok (v, c') ∧ Inv c')
    {j : J K} {v : SVal K} (h : Holds p env j v) : Replay env L Inv j v := by
  have elem {x idx v} (hd : Den p env x idx v) (h : Runs L Inv (fun lk c => compute p env lk x idx c) v) :
      Runs L Inv (fun lk => lk x idx) v := h.succ (helem hd)
  induction h with
  | ser _ ih => exact ih
  | adj _ ih => exact ih.bind .pure
  | neg _ hv ih => exact ih.bind (.liftE hv)
  | add _ _ hv iha ihb => exact iha.bind (ihb.bind (.liftE hv))
  | sub _ _ hv iha ihb => exact iha.bind (ihb.bind (.liftE hv))
  | divInt _ hv ih => exact ih.bind (.liftE hv)
  | callSer hv => exact .liftE hv
  | callExpr _ hv ih => exact ih.bind (.liftE hv)
  | zero => exact .pure
  | iteT hf _ ih => exact .pos hf ih
  | iteF hf _ ih => exact .neg (Bool.eq_false_iff.mp hf) ih
  | bnil => exact .pure
  | markerHit hlow _ hv ih => exact .pos hlow (ih.bind (.liftE hv))
  | markerMiss hlow _ ih => exact .neg hlow ih
  | lowerHit hlow _ hv ih => exact .pos hlow (ih.addExpr hv)
  | lowerMiss hlow _ ih => exact .neg hlow ih
  | diagHit hd _ hv _ ihe ihb => exact .pos hd ((ihe.addExpr hv).bind ihb)
  | diagMiss hd _ ih => exact .neg (Bool.eq_false_iff.mp hd) ih
  | offHit hd _ hv _ ihe ihb => exact .pos hd ((ihe.addExpr hv).bind ihb)
  | offWrap hd hod _ hv _ ihe ihb =>
    refine .neg (Bool.eq_false_iff.mp hd) ?_
    rw [hod]
    exact (ihe.addExpr hv).bind ihb
  | offSkip hd hod _ ih =>
    refine .neg (Bool.eq_false_iff.mp hd) ?_
    rw [hod]
    exact ih
  | default _ hv _ ihe ihb => exact (ihe.addExpr hv).bind ihb
  | pnil => exact .pure
  | leftZero hcost _ hz _ ihl ihr => exact .pos hcost (ihl.bind (.pos hz ihr))
  | leftThenRightZero hcost _ hz _ hzr _ ihl ihrr ihr =>
    exact .pos hcost (ihl.bind (.neg (Bool.eq_false_iff.mp hz) (ihrr.bind (.pos hzr ihr))))
  | rightZero hcost _ hz _ ihrr ihr => exact .neg hcost (ihrr.bind (.pos hz ihr))
  | rightThenLeftZero hcost _ hzr _ hz _ ihrr ihl ihr =>
    exact .neg hcost (ihrr.bind (.neg (Bool.eq_false_iff.mp hzr) (ihl.bind (.pos hz ihr))))
  | @both a b idx m na nb rest acc acc' r l rr _ hz _ hzr hv _ ihl ihrr ihr =>
    have hz := Bool.eq_false_iff.mp hz
    have hzr := Bool.eq_false_iff.mp hzr
    by_cases hcost : cost na ≤ cost nb
    · exact .pos hcost (ihl.bind (.neg hz (ihrr.bind (.neg hzr (.bindE hv ihr)))))
    · exact .neg hcost (ihrr.bind (.neg hzr (ihl.bind (.neg hz (.bindE hv ihr)))))
  | input hk => exact elem (.input hk) (by simp only [compute, hk]; exact .pure)
  | pinned hk hs => exact elem (.pinned hk hs) (by simp only [compute, hk, hs]; exact .pure)
  | body hk hs hb ih => exact elem (.body hk hs hb) (by simp only [compute, hk, hs]; exact ih)
  | product hk hp ih => exact elem (.product hk hp) (by simp only [compute, hk]; exact ih)

theorem Holds.replayNC {j : J K} {v : SVal K} (h : Holds p env j v) :
    Replay env (evalNC p env) (fun _ => True) j v :=
  h.replay fun _ _ _ c1 _ e _ => ⟨c1, e, trivial⟩

theorem Holds.det {j : J K} {v : SVal K} (h : Holds p env j v) : ∀ w, Holds p env j w → v = w := by
  intro w h'
  have hv := h.replayNC
  have hw := h'.replayNC
  cases j <;> exact hv.unique hw

def CompJ (p : Prog) (env : Env K) : J K → SVal K → Prop
  | .elem x idx, v => ∃ F, ∀ fuel, F ≤ fuel → ∀ c, CacheOK p env c →
      ∃ c', getElem p env fuel x idx c = .ok (v, c') ∧ CacheOK p env c'
  | .expr e idx, v => ∃ F, ∀ fuel, F ≤ fuel → ∀ c, CacheOK p env c →
      ∃ c', evalExpr env (getElem p env fuel) idx e c = .ok (v, c') ∧ CacheOK p env c'
  | .body self idx st acc, v => ∃ F, ∀ fuel, F ≤ fuel → ∀ c, CacheOK p env c →
      ∃ c', evalBody env (getElem p env fuel) self idx st acc c = .ok (v, c') ∧ CacheOK p env c'
  | .pairs a b idx ps acc, v => ∃ F, ∀ fuel, F ≤ fuel → ∀ c, CacheOK p env c →
      ∃ c', evalPairs (getElem p env fuel) a b idx ps acc c = .ok (v, c') ∧ CacheOK p env c'

/-- On a hit the cached value is the derivable one, the semantics being deterministic. -/
theorem getElem_succ {x : String} {idx : Idx} {v : SVal K} (hden : Den p env x idx v) (fuel : Nat) (c c1 : Cache K)
    (hc : CacheOK p env c) (h : compute p env (getElem p env fuel) x idx c = .ok (v, c1)) (hc1 : CacheOK p env c1) :
    ∃ c', getElem p env (fuel + 1) x idx c = .ok (v, c') ∧ CacheOK p env c' := by
  simp only [getElem]
  cases hget : c.get? (x, idx) with
  | some w =>
    cases Holds.det hden w (hc x idx w hget)
    exact ⟨c, rfl, hc⟩
  | none =>
    simp only [h]
    exact ⟨_, rfl, cacheOK_insert hc1 hden⟩

/-- `CompJ p env` is `Replay env (getElem p env) (CacheOK p env)` written out. -/
theorem Holds.complete {j : J K} {v : SVal K} (h : Holds p env j v) : CompJ p env j v := by
  cases j <;> exact h.replay getElem_succ

/-- **completeness**: a derivable element is computed by the evaluator, from the empty cache, with
enough fuel -/
theorem getElem_complete {x : String} {idx : Idx} {v : SVal K} (h : Den p env x idx v) :
    ∃ fuel c', getElem p env fuel x idx ∅ = .ok (v, c') := by
  obtain ⟨F, hF⟩ := Holds.complete h
  obtain ⟨c', h1, _⟩ := hF F (Nat.le_refl _) ∅ cacheOK_empty
  exact ⟨F, c', h1⟩

end Dsl
end Pyma

#print axioms Pyma.Dsl.Holds.det
#print axioms Pyma.Dsl.getElem_complete
