/-
C08, the specification and the boson/ladder step.  `NumberOrderedForm.__mul__` is to represent
composition of operators on Fock space in the unnormalised basis (`a|n) = n|n-1)`, `a†|n) = |n+1)`): a
normal-ordered monomial `(a†)^r f(N) a^p` sends `|s)` to `falling(s,p) · f(s-p) · |s-p+r)` (`tgt`,
`specAmp`), and `_multiply_op` on a boson or ladder mode acts on one term accordingly (`opTerm_amp`).
-/
import PymaVerif.Model.Nof
import PymaVerif.Proofs.GRatField
import Mathlib.Algebra.BigOperators.Intervals

namespace Pyma
namespace Nof
open Finset

/-! A position is bounded by some `n` and a vector has length `n` by an equation of its own (`Valid.len`, `WFT.len`;
`rfl` where the bound is the length itself). -/

theorem get_set {N : Occ} {i j n : Nat} {v : Int} (hi : i < n) (hN : N.length = n) :
    Occ.get (Occ.set N i v) j = if j = i then v else Occ.get N j := by
  subst hN
  unfold Occ.get Occ.set
  by_cases h : j = i
  · subst h; simp [List.getD_eq_getElem?_getD, hi]
  · simp [List.getD_eq_getElem?_getD, h, Ne.symm h]

theorem get_set_ne {N : Occ} {i j : Nat} {v : Int} (h : j ≠ i) : Occ.get (Occ.set N i v) j = Occ.get N j := by
  unfold Occ.get Occ.set
  simp [List.getD_eq_getElem?_getD, Ne.symm h]

@[simp] theorem length_set (N : Occ) (i : Nat) (v : Int) : (Occ.set N i v).length = N.length := by
  simp [Occ.set]

@[simp] theorem length_shift (N : Occ) (i : Nat) (d : Int) : (Occ.shift N i d).length = N.length := by
  simp [Occ.shift]

theorem get_shift {N : Occ} {i j n : Nat} {d : Int} (hi : i < n) (hN : N.length = n) :
    Occ.get (Occ.shift N i d) j = if j = i then Occ.get N i + d else Occ.get N j :=
  get_set hi hN

theorem get_shift_ne {N : Occ} {i j : Nat} {d : Int} (h : j ≠ i) : Occ.get (Occ.shift N i d) j = Occ.get N j :=
  get_set_ne h

theorem occ_ext {A B : Occ} {n : Nat} (hA : A.length = n) (hB : B.length = n)
    (h : ∀ j, j < n → Occ.get A j = Occ.get B j) : A = B := by
  subst hA
  apply List.ext_getElem hB.symm
  intro j h1 h2
  have := h j h1
  simpa [Occ.get, List.getD_eq_getElem?_getD, h1, h2] using this

theorem set_self (N : Occ) (i : Nat) (v : Int) (h : Occ.get N i = v) (hi : i < N.length) : Occ.set N i v = N := by
  apply occ_ext (length_set N i v) rfl
  intro j _
  rw [get_set hi rfl]
  by_cases hji : j = i
  · subst hji; simp [h]
  · simp [hji]

theorem shift_zero (N : Occ) (i : Nat) : Occ.shift N i 0 = N := by
  by_cases hi : i < N.length
  · exact set_self N i _ (add_zero _).symm hi
  · simp [Occ.shift, Occ.set, List.set_eq_of_length_le (Nat.le_of_not_lt hi)]

theorem set_set_comm {N : Occ} {i j : Nat} {v w : Int} (h : i ≠ j) :
    Occ.set (Occ.set N i v) j w = Occ.set (Occ.set N j w) i v := by
  unfold Occ.set
  exact List.set_comm _ _ h

theorem set_set_same (N : Occ) (i : Nat) (v w : Int) : Occ.set (Occ.set N i v) i w = Occ.set N i w := by
  unfold Occ.set; simp

theorem shift_set_comm {N : Occ} {i j : Nat} {d v : Int} (h : i ≠ j) :
    Occ.shift (Occ.set N j v) i d = Occ.set (Occ.shift N i d) j v := by
  unfold Occ.shift
  rw [get_set_ne h, set_set_comm (Ne.symm h)]

theorem get_mapRange {n j : Nat} (f : Nat → Int) (hj : j < n) : Occ.get ((List.range n).map f) j = f j := by
  simp [Occ.get, List.getD_eq_getElem?_getD, hj]

theorem get_replicate (n j : Nat) : Occ.get (List.replicate n (0 : Int)) j = 0 := by
  unfold Occ.get
  by_cases h : j < n <;> simp [List.getD_eq_getElem?_getD, h]

theorem foldl_mul_eq_prod (n : Nat) (f : Nat → Int) :
    (List.range n).foldl (fun acc j => acc * f j) 1 = ∏ j ∈ range n, f j := by
  induction n with
  | zero => simp
  | succ n ih => rw [List.range_succ, List.foldl_append, ih, prod_range_succ]; simp

theorem falling_eq (x : Int) (m : Nat) : falling x m = ∏ k ∈ range m, (x - (k : Int)) :=
  foldl_mul_eq_prod m _

theorem rising_eq (x : Int) (m : Nat) : rising x m = ∏ k ∈ range m, (x + (k : Int) + 1) :=
  foldl_mul_eq_prod m _

@[simp] theorem falling_zero (x : Int) : falling x 0 = 1 := by simp [falling_eq]
theorem rising_zero (x : Int) : rising x 0 = 1 := by simp [rising_eq]

theorem falling_add (x : Int) (m k : Nat) : falling x (m + k) = falling x m * falling (x - m) k := by
  rw [falling_eq, falling_eq, falling_eq, prod_range_add]
  congr 1
  apply prod_congr rfl
  intro j _
  push_cast; ring

theorem rising_eq_falling (x : Int) (m : Nat) : rising x m = falling (x + m) m := by
  rw [rising_eq, falling_eq, ← prod_range_reflect]
  apply prod_congr rfl
  intro j hj
  have : j < m := mem_range.mp hj
  have e : ((m - 1 - j : ℕ) : Int) = (m : Int) - 1 - j := by omega
  rw [e]; ring

theorem falling_succ (x : Int) (k : Nat) : falling x (k + 1) = falling x k * (x - k) := by
  rw [falling_add]; simp [falling_eq]

theorem falling_eq_zero {n : Int} {k : Nat} (h0 : 0 ≤ n) (h : n < k) : falling n k = 0 := by
  rw [falling_eq]
  apply prod_eq_zero (i := n.toNat)
  · rw [mem_range]; omega
  · omega

theorem ofInt_mul (a b : Int) : ofInt (a * b) = ofInt a * ofInt b := by
  ext <;> simp [ofInt]
theorem ofInt_one : ofInt 1 = 1 := by ext <;> simp [ofInt]
theorem ofInt_zero : ofInt 0 = 0 := by ext <;> simp [ofInt]
theorem ofInt_neg (a : Int) : ofInt (-a) = -ofInt a := by ext <;> simp [ofInt]

def modeAmp (c : Ctx) (j : Nat) (n p : Int) : Int :=
  if c.isInf j then
    (if c.kind j == .boson && decide (p > 0) then falling n p.toNat else 1)
  else
    -- spins and fermions (occupation 0 or 1): `c|n) = n|n-1)`, `c†|n) = (1-n)|n+1)`
    (if p > 0 then n else if p < 0 then 1 - n else 1)

def annAmp (c : Ctx) (t : Term) (s : Occ) : Int := ∏ j ∈ range c.n, modeAmp c j (Occ.get s j) (pw t j)

/-- occupation numbers seen by the coefficient function: after the annihilators -/
def mid (t : Term) (s : Occ) : Occ := (List.range s.length).map fun j => Occ.get s j - max (pw t j) 0
/-- the state the monomial maps `s` to -/
def tgt (t : Term) (s : Occ) : Occ := (List.range s.length).map fun j => Occ.get s j - pw t j

def specAmp (c : Ctx) (t : Term) (s : Occ) : GRat := ofInt (annAmp c t s) * t.coeff (mid t s)

def ampS (c : Ctx) (t : Term) (s s' : Occ) : GRat := if tgt t s = s' then specAmp c t s else 0
/-- kernel of a form: `⟨s'| x |s)` in the unnormalised basis -/
def ampF (c : Ctx) (x : Form) (s s' : Occ) : GRat := (x.map fun t => ampS c t s s').sum

def WF (c : Ctx) (x : Form) : Prop := ∀ t ∈ x, t.powers.length = c.n
def AllInf (c : Ctx) : Prop := ∀ i, i < c.n → c.isInf i = true

@[simp] theorem length_mid (t : Term) (s : Occ) : (mid t s).length = s.length := by
  rw [mid, List.length_map, List.length_range]
@[simp] theorem length_tgt (t : Term) (s : Occ) : (tgt t s).length = s.length := by
  rw [tgt, List.length_map, List.length_range]

theorem get_mid {t : Term} {s : Occ} {j n : Nat} (hj : j < n) (hs : s.length = n) :
    Occ.get (mid t s) j = Occ.get s j - max (pw t j) 0 :=
  get_mapRange _ (hs ▸ hj)

theorem get_tgt {t : Term} {s : Occ} {j n : Nat} (hj : j < n) (hs : s.length = n) :
    Occ.get (tgt t s) j = Occ.get s j - pw t j :=
  get_mapRange _ (hs ▸ hj)

theorem modeAmp_zero (c : Ctx) (i : Nat) (n : Int) : modeAmp c i n 0 = 1 := by simp [modeAmp]

theorem modeAmp_ladder {c : Ctx} {i : Nat} (hinf : c.isInf i = true) (hb : ¬ c.kind i = .boson) (a b : Int) :
    modeAmp c i a b = 1 := by
  simp [modeAmp, hb, hinf]

theorem modeAmp_boson {c : Ctx} {i : Nat} (hb : c.kind i = .boson) (a b : Int) :
    modeAmp c i a b = falling a b.toNat := by
  have hinf : c.isInf i = true := by simp [Ctx.isInf, hb]
  by_cases h : b > 0
  · simp [modeAmp, hb, hinf, h]
  · simp [modeAmp, hb, hinf, h, Int.toNat_of_nonpos (not_lt.mp h)]

theorem modeAmp_fin {c : Ctx} {i : Nat} (h : c.isInf i = false) (n p : Int) :
    modeAmp c i n p = if p > 0 then n else if p < 0 then 1 - n else 1 := by
  simp [modeAmp, h]

theorem ampS_eq_zero {c : Ctx} {t : Term} {s s' : Occ} (h : annAmp c t s = 0) : ampS c t s s' = 0 := by
  rw [ampS, specAmp, h, ofInt_zero, zero_mul, ite_self]

/-! Both kinds of `_multiply_op` step produce a term `t'` that differs from `t` in the power of mode `i`
only; its target, the occupation vector its coefficient sees and the amplitudes of the other modes are
those of `t` on the state with mode `i` moved by `q`. -/

section
variable {t t' : Term} {i n : Nat} {q : Int} {s : Occ}

theorem pw_of_powers {v : Int} (h : t'.powers = setPw t i v) (hi : i < n) (ht : t.powers.length = n) (j : Nat) :
    pw t' j = if j = i then v else pw t j := by
  show Occ.get t'.powers j = _
  rw [h]
  exact get_set hi ht

theorem tgt_of_powers (h : t'.powers = setPw t i (pw t i + q)) (hi : i < n) (hs : s.length = n)
    (ht : t.powers.length = n) : tgt t' s = tgt t (Occ.shift s i (-q)) := by
  refine occ_ext ((length_tgt t' s).trans hs) (by simp [hs]) fun j hj => ?_
  rw [get_tgt hj hs, get_tgt hj (by simp [hs]), pw_of_powers h hi ht, get_shift hi hs]
  by_cases hji : j = i
  · subst hji; simp; ring
  · simp [hji]

theorem mid_of_powers (h : t'.powers = setPw t i (pw t i + q)) (hi : i < n) (hs : s.length = n)
    (ht : t.powers.length = n) :
    mid t (Occ.shift s i (-q)) = Occ.set (mid t' s) i (Occ.get s i - q - max (pw t i) 0) := by
  have hm : (mid t' s).length = n := by simp [hs]
  refine occ_ext (by simp [hs]) ((length_set _ _ _).trans hm) fun j hj => ?_
  rw [get_mid hj (by simp [hs]), get_shift hi hs, get_set hi hm]
  by_cases hji : j = i
  · subst hji; simp only [↓reduceIte]; ring
  · rw [if_neg hji, if_neg hji, get_mid hj hs, pw_of_powers h hi ht, if_neg hji]

end

theorem annAmp_split (c : Ctx) (t : Term) (s : Occ) {i : Nat} (hi : i < c.n) :
    annAmp c t s = modeAmp c i (Occ.get s i) (pw t i) *
      ∏ j ∈ (range c.n).erase i, modeAmp c j (Occ.get s j) (pw t j) := by
  unfold annAmp
  exact (mul_prod_erase (range c.n) (fun j => modeAmp c j (Occ.get s j) (pw t j)) (mem_range.mpr hi)).symm

section
variable {c : Ctx} {t t' : Term} {i : Nat} {q : Int} {s : Occ}

theorem rest_of_powers (h : t'.powers = setPw t i (pw t i + q)) (hi : i < c.n) (hs : s.length = c.n)
    (ht : t.powers.length = c.n) :
    ∏ j ∈ (range c.n).erase i, modeAmp c j (Occ.get s j) (pw t' j)
      = ∏ j ∈ (range c.n).erase i, modeAmp c j (Occ.get (Occ.shift s i (-q)) j) (pw t j) := by
  apply prod_congr rfl
  intro j hj
  have hne : j ≠ i := (mem_erase.mp hj).1
  rw [pw_of_powers h hi ht, get_shift hi hs]; simp [hne]

theorem specAmp_of_powers (h : t'.powers = setPw t i (pw t i + q)) (hi : i < c.n) (hs : s.length = c.n)
    (ht : t.powers.length = c.n)
    (hc : ofInt (modeAmp c i (Occ.get s i) (pw t i + q)) * t'.coeff (mid t' s)
      = ofInt (modeAmp c i (Occ.get s i) q * modeAmp c i (Occ.get s i - q) (pw t i))
          * t.coeff (mid t (Occ.shift s i (-q)))) :
    specAmp c t' s = ofInt (modeAmp c i (Occ.get s i) q) * specAmp c t (Occ.shift s i (-q)) := by
  unfold specAmp
  rw [annAmp_split c t' s hi, annAmp_split c t _ hi, rest_of_powers h hi hs ht,
    pw_of_powers h hi ht, if_pos rfl, get_shift hi hs, if_pos rfl, ← sub_eq_add_neg]
  generalize (∏ j ∈ (range c.n).erase i, modeAmp c j (Occ.get (Occ.shift s i (-q)) j) (pw t j)) = R
  rw [ofInt_mul, mul_right_comm, hc]
  simp only [ofInt_mul]
  ring

end

/-! the term produced by `_multiply_op` on a boson/ladder mode -/

def opTerm (c : Ctx) (i : Nat) (q : Int) (t : Term) : Term :=
  let orig := pw t i
  let new := orig + q
  let boson := c.kind i == .boson
  let coeff' : Occ → GRat :=
    if q > 0 then
      let toPair := (min q (max (-orig) 0)).toNat
      fun N => t.coeff (Occ.shift N i (-(toPair : Int))) *
        (if boson then ofInt (falling (Occ.get N i) toPair) else 1)
    else
      let toPair := (min (-q) (max orig 0)).toNat
      let newNumbers : Occ → GRat := fun N => if boson then ofInt (rising (Occ.get N i) toPair) else 1
      if new > 0 then
        fun N => t.coeff N * newNumbers (Occ.shift N i new)
      else
        fun N => let N' := Occ.shift N i (-q - toPair); t.coeff N' * newNumbers N'
  { powers := setPw t i new, coeff := coeff' }

theorem multiplyOp_inf {c : Ctx} {x : Form} {i : Nat} {q : Int} (h : c.isInf i = true) :
    multiplyOp c x i q = x.map (opTerm c i q) := by
  unfold multiplyOp
  rw [if_pos h]
  rfl

theorem pw_opTerm {c : Ctx} {i n : Nat} {q : Int} {t : Term} (hi : i < n) (ht : t.powers.length = n) (j : Nat) :
    pw (opTerm c i q t) j = if j = i then pw t i + q else pw t j :=
  pw_of_powers rfl hi ht j

/-- Every branch of `_multiply_op` on a boson/ladder mode has the same shape: the old coefficient, moved
along mode `i` so that it sees the occupation it saw before, times (for a boson) a factor `F (N i)` from
pairing `a` with `a†`.  Of `F` only the identity `falling n (p+q) · F = falling n q · falling (n-q) p`
is used (negative arguments count as `0`). -/
theorem opTerm_coeff {c : Ctx} {i : Nat} (hi : i < c.n) (q : Int) (t : Term) : ∃ F : Int → Int,
    (∀ N : Occ, N.length = c.n → (opTerm c i q t).coeff N =
      t.coeff (Occ.shift N i (max (pw t i + q) 0 - q - max (pw t i) 0)) *
        (if c.kind i == .boson then ofInt (F (Occ.get N i)) else 1)) ∧
    ∀ n : Int, falling n (pw t i + q).toNat * F (n - max (pw t i + q) 0)
      = falling n q.toNat * falling (n - q) (pw t i).toNat := by
  generalize hp : pw t i = p
  by_cases hq : q > 0
  · -- annihilation: some of the new annihilators meet creators of the term, the others join its annihilators;
    -- both sides of the identity are `falling n` of their total number, split in two ways
    have hm : (p + q).toNat + (min q (max (-p) 0)).toNat = q.toNat + p.toNat := by omega
    refine ⟨fun x => falling x (min q (max (-p) 0)).toNat, fun N _ => ?_, fun n => ?_⟩
    · simp only [opTerm, hq, ↓reduceIte, hp]
      congr 3; omega
    · beta_reduce
      rw [← Int.toNat_eq_max, ← falling_add, hm, falling_add, Int.toNat_of_nonneg hq.le]
  · rw [Int.toNat_of_nonpos (not_lt.mp hq)]
    simp only [falling_zero, one_mul]
    by_cases hnew : p + q > 0
    · -- creation against more annihilators than there are creators (the branch of defect D3)
      have hm : ((min (-q) (max p 0)).toNat : Int) = -q := by omega
      have hp' : p.toNat = (min (-q) (max p 0)).toNat + (p + q).toNat := by omega
      refine ⟨fun x => rising (x + (p + q)) (min (-q) (max p 0)).toNat, fun N hN => ?_, fun n => ?_⟩
      · simp only [opTerm, hq, hnew, ↓reduceIte, hp, get_shift hi hN]
        rw [show max (p + q) 0 - q - max p 0 = 0 by omega, shift_zero]
      · beta_reduce
        rw [rising_eq_falling, max_eq_left hnew.le, hp', falling_add, hm, sub_add_cancel, sub_neg_eq_add,
          sub_add_cancel, ← sub_eq_add_neg, mul_comm]
    · -- creation that uses up all annihilators of the term
      have hm : (min (-q) (max p 0)).toNat = p.toNat := by omega
      refine ⟨fun x => rising (x + (-q - (min (-q) (max p 0)).toNat)) (min (-q) (max p 0)).toNat,
        fun N hN => ?_, fun n => ?_⟩
      · simp only [opTerm, hq, hnew, ↓reduceIte, hp, get_shift hi hN]
        rw [show max (p + q) 0 - q - max p 0 = -q - ((min (-q) (max p 0)).toNat : Int) by rw [hm]; omega]
      · beta_reduce
        rw [Int.toNat_of_nonpos (not_lt.mp hnew), falling_zero, one_mul, rising_eq_falling,
          max_eq_right (not_lt.mp hnew), hm, sub_zero, add_assoc, sub_add_cancel, ← sub_eq_add_neg]

/-- **the one-generator step**: right multiplication by `a_i^q` (`q>0`) or `(a_i†)^{-q}` (`q<0`) -/
theorem opTerm_amp (c : Ctx) (i : Nat) (q : Int) (t : Term) (s : Occ) (hi : i < c.n)
    (hinf : c.isInf i = true) (hs : s.length = c.n) (ht : t.powers.length = c.n) :
    specAmp c (opTerm c i q t) s
      = ofInt (modeAmp c i (Occ.get s i) q) * specAmp c t (Occ.shift s i (-q)) := by
  obtain ⟨F, hF, hid⟩ := opTerm_coeff hi q t
  refine specAmp_of_powers rfl hi hs ht ?_
  rw [hF _ (by simp [hs]), mid_of_powers (t' := opTerm c i q t) rfl hi hs ht, Occ.shift, get_mid hi hs,
    pw_opTerm hi ht, if_pos rfl,
    show Occ.get s i - max (pw t i + q) 0 + (max (pw t i + q) 0 - q - max (pw t i) 0)
      = Occ.get s i - q - max (pw t i) 0 by ring]
  by_cases hb : c.kind i = .boson
  · rw [modeAmp_boson hb, modeAmp_boson hb, modeAmp_boson hb, ← hid]
    simp only [hb, beq_self_eq_true, ↓reduceIte, ofInt_mul]
    ring
  · rw [modeAmp_ladder hinf hb, modeAmp_ladder hinf hb, modeAmp_ladder hinf hb]
    simp [hb]

end Nof
end Pyma
