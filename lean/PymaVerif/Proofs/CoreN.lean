/-
Theorem N (DESIGN.md §3.1): the non-Hermitian recurrences, under the extra hypothesis
`H0 * Sel P = Sel P * H0` (no kept off-diagonal element joins two different energies).
-/
import PymaVerif.Proofs.Filtered

namespace Pyma
namespace TheoremN
variable {S : Type*} [Ring S]

structure Hyp (S : Type*) [Ring S] where
  two_cancel : ∀ x y : S, 2 * x = 2 * y → x = y
  Sel : S →+ S
  SS : ∀ x, Sel (Sel x) = Sel x
  H0 : S
  Hd : S
  Ho : S
  P : S   -- U'
  G : S   -- U_inv'
  X : S
  B : S
  Ht : S
  H0sel : Sel H0 = H0
  H0comm : ∀ x, Sel (H0 * x - x * H0) = H0 * Sel x - Sel x * H0
  Hdsel : Sel Hd = Hd
  Hosel : Sel Ho = 0
  eqPsel : 2 * Sel P = -Sel (G * P)
  eqPrem : H0 * (P - Sel P) - (P - Sel P) * H0
             = (X - Hd * P + P * Hd) - Sel (X - Hd * P + P * Hd)
  eqG : G = -P - G * P
  eqXrem : X - Sel X = -(Ho + Ho * P + G * B) - Sel (-(Ho + Ho * P + G * B))
  eqXsel : Sel X = Sel (Hd * P - P * Hd)
  eqB : B = X + Ho + Ho * P
  eqHt : Ht = H0 + Sel (Hd + B + G * B)
  -- the extra hypothesis (false in general: defect D5)
  comm : H0 * Sel P = Sel P * H0

variable (h : Hyp S)

theorem inverse : (1 + h.G) * (1 + h.P) = 1 := by
  calc (1 + h.G) * (1 + h.P) = 1 + (h.G - (-h.P - h.G * h.P)) := by
        rw [mul_add, mul_one, add_mul, one_mul]; abel
    _ = 1 := by rw [sub_eq_zero.mpr h.eqG, add_zero]

theorem gauge : h.Sel (h.P - h.G) = 0 := by
  have e : h.P - (-h.P - h.G * h.P) = h.P + h.P + h.G * h.P := by abel
  rw [h.eqG, e, map_add, map_add, ← two_mul, h.eqPsel, neg_add_cancel]

local notation "HS" => (Hyp.H0 h + Hyp.Hd h)

theorem X_eq_comm : h.X = HS * h.P - h.P * HS := by
  -- the Sylvester equation on the eliminated part of `P`; its kept part commutes with `H0`
  have e := h.eqPrem
  rw [sub_add h.X, map_sub, h.eqXsel, sub_self, sub_zero, mul_sub, sub_mul, h.comm,
    sub_sub_sub_cancel_right] at e
  rw [add_mul, mul_add, add_sub_add_comm, e]; abel

theorem transformed : (1 + h.G) * (HS + h.Ho) * (1 + h.P) = HS + h.B + h.G * h.B := by
  have e : (1 + h.G) * h.B = (1 + h.G) * h.X + (1 + h.G) * h.Ho * (1 + h.P) := by
    rw [h.eqB, add_assoc, mul_add, mul_assoc, mul_add h.Ho 1, mul_one]
  rw [mul_add (1 + h.G) HS, add_mul, conj_eq (inverse h), ← X_eq_comm, add_assoc HS, ← e, add_mul, one_mul,
    add_assoc HS]

theorem selHS : h.Sel HS = HS := by rw [map_add, h.H0sel, h.Hdsel]

theorem main_identity : (1 + h.G) * (HS + h.Ho) * (1 + h.P) = h.Ht := by
  have e : h.Sel (h.B + h.G * h.B) = h.B + h.G * h.B := by
    have : h.B + h.G * h.B = h.X + (h.Ho + h.Ho * h.P + h.G * h.B) := by
      nth_rewrite 1 [h.eqB]; abel
    rw [this, map_add_eq_self h.eqXrem]
  rw [transformed, h.eqHt, add_assoc h.Hd, map_add, h.Hdsel, e]; abel

end TheoremN
end Pyma
#print axioms Pyma.TheoremN.main_identity
