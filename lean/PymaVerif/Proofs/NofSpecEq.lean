/-
The executable closed-form Fock action `specX` (core-only, used by the driver) is the specification
`(tgt, specAmpS)` the theorems are about.
-/
import PymaVerif.Model.NofSpec
import PymaVerif.Proofs.NofFermion

namespace Pyma
namespace Nof
open Finset

theorem modeAmpX_eq (c : Ctx) (j : Nat) (n p : Int) : modeAmpX c j n p = modeAmp c j n p := rfl
theorem midX_eq (t : Term) (s : Occ) : midX t s = mid t s := rfl
theorem tgtX_eq (t : Term) (s : Occ) : tgtX t s = tgt t s := rfl

theorem annAmpX_eq (c : Ctx) (t : Term) (s : Occ) : annAmpX c t s = annAmp c t s := by
  unfold annAmpX annAmp
  rw [foldl_mul_eq_prod]
  rfl

theorem foldl_add_eq_sum (n : Nat) (cnd : Nat → Bool) (g : Nat → Nat) :
    (List.range n).foldl (fun acc k => if cnd k then acc + g k else acc) 0
      = ∑ k ∈ range n, if cnd k = true then g k else 0 := by
  induction n with
  | zero => simp
  | succ n ih =>
    rw [List.range_succ, List.foldl_append, ih, sum_range_succ]
    cases h : cnd n <;> simp [h]

theorem sigmaX_eq (c : Ctx) (t : Term) (s : Occ) : sigmaX c t s = sigma c t s := by
  unfold sigmaX
  rw [foldl_add_eq_sum, sigma_eq_sum]
  apply sum_congr rfl
  intro k _
  have hc : ((c.kind k == Kind.fermion && pw t k != 0) = true) ↔ (isF c k = true ∧ pw t k ≠ 0) := by
    simp [isF]
  by_cases h : isF c k = true ∧ pw t k ≠ 0
  · rw [if_pos (hc.mpr h), if_pos h]
    exact (loCount_eq_length k).symm
  · have : ¬ ((c.kind k == Kind.fermion && pw t k != 0) = true) := fun h' => h (hc.mp h')
    rw [if_neg this, if_neg h]

theorem specX_eq (c : Ctx) (t : Term) (s : Occ) : specX c t s = (tgt t s, specAmpS c t s) := by
  unfold specX specAmpS specAmp sgn sgnI
  rw [sigmaX_eq, annAmpX_eq, midX_eq, tgtX_eq]
  simp only [ofInt_mul, beq_iff_eq, mul_assoc]

end Nof
end Pyma
