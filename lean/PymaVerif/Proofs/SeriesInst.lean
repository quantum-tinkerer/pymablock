/-
`MvPowerSeries σ A` (A a non-commutative *-ring) carries the filtration by total degree,
a coefficientwise star, and coefficientwise additive maps; this is the instance Theorems H/U need.
-/
import Mathlib.RingTheory.MvPowerSeries.Basic
import Mathlib.Algebra.Star.BigOperators

open MvPowerSeries

section additive
variable {σ : Type*} {A : Type*} [Ring A]

def FDeg (σ A) [Ring A] (k : ℕ) : AddSubgroup (MvPowerSeries σ A) where
  carrier := {f | ∀ m : σ →₀ ℕ, m.degree < k → coeff m f = 0}
  zero_mem' := by intro m _; simp
  add_mem' := by
    intro f g hf hg m hm
    simp only [Set.mem_ofPred_eq] at hf hg
    rw [map_add, hf m hm, hg m hm, add_zero]
  neg_mem' := by
    intro f hf m hm
    simp only [Set.mem_ofPred_eq] at hf
    rw [map_neg, hf m hm, neg_zero]

theorem FDeg_top (f : MvPowerSeries σ A) : f ∈ FDeg σ A 0 := by
  intro m hm; exact absurd hm (Nat.not_lt_zero _)

theorem FDeg_anti (k : ℕ) : FDeg σ A (k+1) ≤ FDeg σ A k := by
  intro f hf m hm; exact hf m (Nat.lt_succ_of_lt hm)

theorem FDeg_sep (f : MvPowerSeries σ A) (h : ∀ k, f ∈ FDeg σ A k) : f = 0 := by
  ext m
  exact h (m.degree + 1) m (Nat.lt_succ_self _)

instance [StarRing A] : Star (MvPowerSeries σ A) := ⟨fun f m => star (coeff m f)⟩

theorem coeff_star [StarRing A] (f : MvPowerSeries σ A) (m : σ →₀ ℕ) :
    coeff m (star f) = star (coeff m f) := rfl

def coeffwise (φ : A →+ A) : MvPowerSeries σ A →+ MvPowerSeries σ A where
  toFun f := fun m => φ (coeff m f)
  map_zero' := by
    ext m; show φ (coeff m (0 : MvPowerSeries σ A)) = coeff m 0; simp
  map_add' f g := by
    ext m
    show φ (coeff m (f + g)) = coeff m _
    rw [map_add, map_add]; rfl

theorem coeffwise_mem (φ : A →+ A) (k : ℕ) (f : MvPowerSeries σ A) (hf : f ∈ FDeg σ A k) :
    coeffwise φ f ∈ FDeg σ A k := by
  intro m hm
  show φ (coeff m f) = 0
  rw [hf m hm, map_zero]

end additive

/-! Products of coefficients run over `Finset.antidiagonal`, which asks for decidable equality of `σ`. -/

variable {σ : Type*} [DecidableEq σ] {A : Type*} [Ring A]

theorem FDeg_mul {j k : ℕ} {f g : MvPowerSeries σ A} (hf : f ∈ FDeg σ A j) (hg : g ∈ FDeg σ A k) :
    f * g ∈ FDeg σ A (j + k) := by
  intro m hm
  rw [coeff_mul]
  apply Finset.sum_eq_zero
  intro p hp
  rw [Finset.mem_antidiagonal] at hp
  have hdeg : p.1.degree + p.2.degree = m.degree := by
    rw [← hp, map_add]
  by_cases h1 : p.1.degree < j
  · rw [hf p.1 h1, zero_mul]
  · have h2 : p.2.degree < k := by omega
    rw [hg p.2 h2, mul_zero]

instance [StarRing A] : StarRing (MvPowerSeries σ A) where
  star_involutive f := by ext m; simp [coeff_star]
  star_mul f g := by
    ext m
    rw [coeff_star, coeff_mul, coeff_mul, star_sum]
    rw [← Finset.sum_equiv (Equiv.prodComm _ _) (s := Finset.antidiagonal m)
      (t := Finset.antidiagonal m) (f := fun p => star (coeff p.1 f * coeff p.2 g))
      (g := fun p => coeff p.1 (star g) * coeff p.2 (star f))]
    · intro p; simp [Finset.mem_antidiagonal, add_comm]
    · intro p _; simp [coeff_star, star_mul]
  star_add f g := by ext m; simp [coeff_star]

#print axioms FDeg_mul
