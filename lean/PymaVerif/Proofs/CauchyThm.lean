/-
C18, machine level: the script of `product_by_order` computes the pure fold `prodSpec` over the
(middle, order, order) triples, whatever the `in` tests answer (they may only say "absent" for
elements that are the `zero` sentinel).
-/
import PymaVerif.Model.Cauchy
import PymaVerif.Proofs.MachineThm

namespace Pyma
namespace Cauchy
open Machine Dsl

variable {K : Type} [Scalar K]

/-- the value `product_by_order` must return: a pure fold over the triples -/
def prodSpec (den : SId → Machine.Idx → SVal K) (first second : SId) (i j : Nat) (herm : Bool) :
    List (Nat × List Nat × List Nat) → SVal K → Option (SVal K)
  | [], acc => some acc
  | (m, na, nb) :: rest, acc =>
      if herm && lexGt na nb then prodSpec den first second i j herm rest acc
      else
        let l := den first (i :: m :: na)
        let r := den second (m :: j :: nb)
        if l.isZeroS || r.isZeroS then prodSpec den first second i j herm rest acc
        else match accumulate acc (term l r) (herm && na != nb) with
          | some a => prodSpec den first second i j herm rest a
          | none => none

theorem prodLoop_ok (S : Sys (SVal K)) (hz : S.isZero = SVal.isZeroS)
    (den : SId → Machine.Idx → SVal K) (first second : SId) (i j : Nat) (herm : Bool) :
    ∀ (ps : List (Nat × List Nat × List Nat)) (acc r : SVal K),
      prodSpec den first second i j herm ps acc = some r →
      ScriptOK S den (prodLoop first second i j herm ps acc) r := by
  intro ps
  induction ps with
  | nil =>
    intro acc r h
    cases h
    exact .pure _
  | cons t rest ih =>
    intro acc r h
    obtain ⟨m, na, nb⟩ := t
    simp only [prodSpec] at h
    simp only [prodLoop]
    by_cases hskip : (herm && lexGt na nb) = true
    · rw [if_pos hskip] at h ⊢; exact ih _ _ h
    · rw [if_neg hskip] at h ⊢
      -- whichever test or read finds a `zero` factor, the triple is skipped; otherwise all paths end in `finish`
      have skip : ((den first (i :: m :: na)).isZeroS || (den second (m :: j :: nb)).isZeroS) = true →
          ScriptOK S den (prodLoop first second i j herm rest acc) r := fun hzero => by
        rw [if_pos hzero] at h; exact ih _ _ h
      have fin : (den first (i :: m :: na)).isZeroS = false → (den second (m :: j :: nb)).isZeroS = false →
          ScriptOK S den
            (match accumulate acc (term (den first (i :: m :: na)) (den second (m :: j :: nb))) (herm && na != nb) with
              | some a => prodLoop first second i j herm rest a
              | none => Script.fail (.user 99)) r := fun hl hr => by
        rw [hl, hr, if_neg (by simp)] at h
        generalize accumulate acc _ _ = o at h ⊢
        cases o with
        | some a => exact ih _ _ h
        | none => cases h
      refine .contains _ _ _ _ fun b1 hb1 => ?_
      cases b1 with
      | false => exact skip (by rw [← hz, hb1 rfl]; rfl)
      | true =>
        refine .contains _ _ _ _ fun b2 hb2 => ?_
        cases b2 with
        | false => exact skip (by rw [← hz, hb2 rfl, Bool.or_true])
        | true =>
          show ScriptOK S den (if cost na ≤ cost nb then _ else _) r
          by_cases hcost : cost na ≤ cost nb
          · rw [if_pos hcost]
            refine .get _ _ _ _ ?_
            cases hl : (den first (i :: m :: na)).isZeroS with
            | true => exact skip (by rw [hl]; rfl)
            | false =>
              refine .get _ _ _ _ ?_
              cases hr : (den second (m :: j :: nb)).isZeroS with
              | true => exact skip (by rw [hr, Bool.or_true])
              | false => exact fin hl hr
          · rw [if_neg hcost]
            refine .get _ _ _ _ ?_
            cases hr : (den second (m :: j :: nb)).isZeroS with
            | true => exact skip (by rw [hr, Bool.or_true])
            | false =>
              refine .get _ _ _ _ ?_
              cases hl : (den first (i :: m :: na)).isZeroS with
              | true => exact skip (by rw [hl]; rfl)
              | false => exact fin hl hr

end Cauchy
end Pyma
#print axioms Pyma.Cauchy.prodLoop_ok
