/-
Theorem H for `main`, the part that does not depend on `two_block_optimized`: the equations of `TheoremH.Base`
hold for the series the model computes (`baseH`: the decomposition of the input, the two equations of `B`, the
Sylvester equation of `V`, the equation of `H_tilde`).  Then the equation of `Yadj` when the flag is off,
including the blocks the `commuting_blocks` flag skips.
-/
import PymaVerif.Proofs.MainSeries

namespace Pyma
namespace BlockDiag
open Dsl MvPowerSeries
namespace Problem

theorem mul_entry_eq_zero {K : Type} [Field K] {d : Nat} {σ : Type} [DecidableEq σ] {x y : Sr σ K d} {m : σ →₀ ℕ}
    {a b : Fin d} (h : ∀ c, (∀ q, coeff q x a c = 0) ∨ ∀ q, coeff q y c b = 0) : coeff m (x * y) a b = 0 := by
  rw [coeff_mul, Matrix.sum_apply]
  refine Finset.sum_eq_zero fun q _ => ?_
  rw [Matrix.mul_apply]
  refine Finset.sum_eq_zero fun c _ => ?_
  rcases h c with h | h
  · rw [h, zero_mul]
  · rw [h, mul_zero]

variable {K : Type} [Field K] [StarRing K] [DecidableEq K] [Thresholds K]
attribute [local instance] Scalar.ofField
variable (p : Problem K)

structure Acc : Prop where
  herm_H : ∀ n (a b : Fin p.d), star (p.g "H" n b a) = p.g "H" n a b
  H0_spec : p.g "H" (toList (0 : Fin p.nparams →₀ ℕ)) = p.H0mat
  diag_kept : ∀ a : Fin p.d, p.keptE a.val a.val = true
  gap : ∀ a b : Fin p.d, p.keptE a.val b.val = false →
    Scalar.absGt (p.energy a.val - p.energy b.val) p.atol = true
  absGt_ne : ∀ x : K, Thresholds.absGt x p.atol = true → x ≠ 0
  comm_trans : ∀ a b c : Fin p.d, p.commuting (p.blk a.val) = true → p.keptE a.val b.val = true →
    p.keptE c.val b.val = true → p.keptE a.val c.val = true

variable (R : p.Ready) (hopt : p.twoBlockOptimized = false) (Y : p.Sym) (A : p.Acc) (h2 : (2 : K) ≠ 0)

include R A in
theorem sr_H : p.sr "H" = p.H0s + p.sr "H'_diag" + p.sr "H'_offdiag" :=
  Ser_input_split R.runs A.H0_spec find_Hd find_Ho

include R in
theorem Hd_sel : p.SelS (p.sr "H'_diag") = p.sr "H'_diag" := Ser_diag_sel R.runs find_Hd

include R in
theorem Ho_sel : p.SelS (p.sr "H'_offdiag") = 0 := Ser_offdiag_sel R.runs find_Ho

include A in
theorem sr_H_star : star (p.sr "H") = p.sr "H" := by
  ext m a b
  rw [coeff_star_apply, coeff_sr]; exact A.herm_H _ a b

include R in
/-- `V` has no kept entry (the gauge condition of C03, for the model) -/
theorem V_sel : p.SelS (p.sr "V") = 0 := by
  rw [SelS_eq_zero_iff]
  intro m a b hk
  rw [p.c_V R, if_neg (p.kept_same_block hk).not_gt, if_pos hk]

include R A in
/-- on kept entries of a commuting block the product `V · H'_diag` vanishes: this is why the flag
may skip it -/
theorem VH_comm_zero (m : Fin p.nparams →₀ ℕ) (a b : Fin p.d) (hk : p.keptE a.val b.val = true)
    (hc : p.commuting (p.blk a.val) = true) : coeff m (p.sr "V @ H'_diag") a b = 0 := by
  rw [← p.sr_prod R prod_VH]
  refine mul_entry_eq_zero fun c => ?_
  by_cases hac : p.keptE a.val c.val = true
  · exact Or.inl fun q => p.SelS_eq_zero_iff.mp (p.V_sel R) q a c hac
  · refine Or.inr fun q => p.SelS_eq_self_iff.mp (p.Hd_sel R) q c b ?_
    by_contra hcb
    exact hac (A.comm_trans a b c hc hk (by simpa using hcb))

include R in
theorem eqBrem : p.sr "B" - p.SelS (p.sr "B")
    = (-((p.sr "W" - p.sr "V") * p.sr "B")) - p.SelS (-((p.sr "W" - p.sr "V") * p.sr "B")) := by
  rw [← p.sr_Q R, p.sr_prod R prod_QB]
  ext m a b
  simp only [coeff_sub_apply, coeff_neg_apply, coeff_SelS, p.c_B R]
  cases p.keptE a.val b.val <;> simp only [Bool.false_eq_true, ↓reduceIte, sub_zero, sub_self]

include R Y A h2 in
theorem eqBsel : 2 * p.SelS (p.sr "B")
    = p.SelS (-((p.sr "W" - p.sr "V") * p.sr "B" - star ((p.sr "W" - p.sr "V") * p.sr "B")
        + p.sr "H'_offdiag" * (p.sr "W" + p.sr "V") + star (p.sr "H'_offdiag" * (p.sr "W" + p.sr "V")))
        + 2 * (p.sr "V" * p.sr "H'_diag" + star (p.sr "V" * p.sr "H'_diag"))) := by
  rw [← p.sr_Q R, ← p.sr_P R, p.sr_prod R prod_QB, p.sr_prod R prod_A, p.sr_prod R prod_VH]
  ext m a b
  rw [coeff_two_mul_apply, coeff_SelS, coeff_SelS]
  by_cases hk : p.keptE a.val b.val = true
  · simp only [hk, ↓reduceIte, coeff_add_apply, coeff_neg_apply, coeff_sub_apply, coeff_two_mul_apply,
      coeff_star_apply, p.c_B R]
    rw [mul_add, neg_two_inv_mul h2]
    by_cases hc : p.commuting (p.blk a.val) = true
    · have hcb : p.commuting (p.blk b.val) = true := p.kept_same_block hk ▸ hc
      rw [p.VH_comm_zero R A m a b hk hc,
        p.VH_comm_zero R A m b a ((p.keptE_symm Y b a).trans hk) hcb, if_pos hc, star_zero, add_zero]
    · rw [if_neg hc]
  · simp [hk]

include R Y A in
theorem eqV_entry (m : Fin p.nparams →₀ ℕ) (a b : Fin p.d) (hk : p.keptE a.val b.val = false) :
    (p.energy a.val - p.energy b.val) * coeff m (p.sr "V") a b
      = -(star (coeff m (p.sr "Yadj") b a) - coeff m (p.sr "V @ H'_diag") a b
          - star (coeff m (p.sr "V @ H'_diag") b a)) := by
  have upper : ∀ a b : Fin p.d, p.keptE a.val b.val = false → ¬ p.blk a.val > p.blk b.val →
      (p.energy a.val - p.energy b.val) * coeff m (p.sr "V") a b
        = -(star (coeff m (p.sr "Yadj") b a) - coeff m (p.sr "V @ H'_diag") a b
            - star (coeff m (p.sr "V @ H'_diag") b a)) := by
    intro a b hk hle
    rw [p.c_V R, if_neg hle, hk, if_neg Bool.false_ne_true, mul_neg,
      p.callE_gap A.absGt_ne (A.gap a b hk)]
  by_cases hgt : p.blk a.val > p.blk b.val
  · -- lower block: star the upper formula at `(b, a)`
    have hs := congrArg star (upper b a ((p.keptE_symm Y b a).trans hk) (by omega))
    rw [star_mul', star_sub, Y.energy_real, Y.energy_real, p.V_antiherm R Y, star_neg, star_sub, star_sub, star_star,
      star_star] at hs
    rw [p.Y_herm R Y m a b, ← neg_mul_neg, neg_sub (p.energy a.val), hs, sub_right_comm]
  · exact upper a b hk hgt

include R Y A in
theorem eqV : p.H0s * p.sr "V" - p.sr "V" * p.H0s
    = -((star (p.sr "Yadj") - p.sr "V" * p.sr "H'_diag" - star (p.sr "V" * p.sr "H'_diag"))
        - p.SelS (star (p.sr "Yadj") - p.sr "V" * p.sr "H'_diag" - star (p.sr "V" * p.sr "H'_diag"))) := by
  rw [p.sr_prod R prod_VH]
  ext m a b
  simp only [coeff_sub_apply, coeff_neg_apply, coeff_H0s_mul, coeff_mul_H0s, coeff_SelS, coeff_star_apply]
  by_cases hk : p.keptE a.val b.val = true
  · simp only [hk, ↓reduceIte, sub_self, neg_zero]
    rw [p.SelS_eq_zero_iff.mp (p.V_sel R) m a b hk, mul_zero, zero_mul, sub_zero]
  · simp only [hk, Bool.false_eq_true, ↓reduceIte, sub_zero]
    rw [← p.eqV_entry R Y A m a b (by simpa using hk)]; ring

include R A h2 in
theorem eqHt : 2 * p.sr "H_tilde" = 2 * p.H0s + p.SelS (2 * p.sr "H'_diag"
      + (p.sr "H'_offdiag" * (p.sr "W" + p.sr "V") + star (p.sr "H'_offdiag" * (p.sr "W" + p.sr "V")))
      - ((p.sr "W" - p.sr "V") * p.sr "B" + star ((p.sr "W" - p.sr "V") * p.sr "B")) - 2 * p.sr "Yadj") := by
  rw [← p.sr_Q R, ← p.sr_P R, p.sr_prod R prod_QB, p.sr_prod R prod_A]
  ext m a b
  simp only [coeff_add_apply, coeff_sub_apply, coeff_two_mul_apply, coeff_SelS, coeff_star_apply,
    p.c_Ht R, C_coeff_zero A.H0_spec]
  by_cases hk : p.keptE a.val b.val = true
  · simp only [hk, ↓reduceIte]
    rw [mul_add, mul_sub, mul_add, mul_add, two_inv h2, neg_two_inv_mul h2]; ring
  · simp [hk]

include R A in
theorem Ht_sel : p.SelS (p.sr "H_tilde") = p.sr "H_tilde" :=
  Ser_input_sel R.runs A.H0_spec find_Ht A.diag_kept

include R A in
theorem Ht_elim (m : Fin p.nparams →₀ ℕ) (a b : Fin p.d) (hk : p.keptE a.val b.val = false) :
    coeff m (p.sr "H_tilde") a b = 0 :=
  p.SelS_eq_self_iff.mp (p.Ht_sel R A) m a b hk

/-- What Theorem H asks of `main` whatever `two_block_optimized` says; `W† = W` is shown for each setting of the
flag on its own. -/
noncomputable def baseH (hW : star (p.sr "W") = p.sr "W") : TheoremH.Base (Sr (Fin p.nparams) K p.d) where
  Φ := p.filt
  two_cancel := two_cancel_series h2
  two_mem := two_mem_series h2
  Sel := p.SelS
  Sstar := p.SelS_star Y
  H0 := p.H0s
  Hd := p.sr "H'_diag"
  Ho := p.sr "H'_offdiag"
  W := p.sr "W"
  V := p.sr "V"
  X := p.sr "X"
  B := p.sr "B"
  Y := p.sr "Yadj"
  Ht := p.sr "H_tilde"
  H0star := p.H0s_star Y
  H0sel := p.H0s_sel A.diag_kept
  Hdstar := Ser_diag_star R.runs find_Hd Y (p.sr_H_star A)
  Hdsel := p.Hd_sel R
  Hostar := Ser_offdiag_star R.runs find_Ho Y (p.sr_H_star A)
  Hosel := p.Ho_sel R
  Wstar := hW
  Vstar := p.sr_V_star R Y
  Wmem := p.F1_W R
  Vmem := p.F1_V R
  -- `(e :)` as in `fillHyp` (MainSeries)
  eqX := by rw [← p.sr_P R]; exact p.sr_X R
  eqBsel := (p.eqBsel R Y A h2 :)
  eqBrem := (p.eqBrem R :)
  eqV := (p.eqV R Y A :)
  eqHt := (p.eqHt R A h2 :)

include R Y A h2 in
/-- On kept entries of a commuting block `X` is anti-Hermitian, which is why the flag may skip `Yadj` there: the kept
part of `X + X†` is that of `2 (V H'_diag + (V H'_diag)†)` (`TheoremH.selX_herm`), and `V H'_diag` vanishes there. -/
theorem X_comm_antiherm (hW : star (p.sr "W") = p.sr "W") (m : Fin p.nparams →₀ ℕ) (a b : Fin p.d)
    (hk : p.keptE a.val b.val = true) (hc : p.commuting (p.blk a.val) = true) :
    star (coeff m (p.sr "X") b a) + coeff m (p.sr "X") a b = 0 := by
  have hkb : p.keptE b.val a.val = true := (p.keptE_symm Y b a).trans hk
  have hcb : p.commuting (p.blk b.val) = true := p.kept_same_block hk ▸ hc
  have e := congrArg (fun s : Sr (Fin p.nparams) K p.d => coeff m s a b) (TheoremH.selX_herm (p.baseH R Y A h2 hW))
  simp only [baseH, p.sr_prod R prod_VH, coeff_add_apply, coeff_two_mul_apply, coeff_SelS, if_pos hk,
    coeff_star_apply] at e
  rw [p.VH_comm_zero R A m a b hk hc, p.VH_comm_zero R A m b a hkb hcb, star_zero, add_zero, mul_zero, add_comm] at e
  exact e

include R hopt Y A h2 in
theorem eqY : 2 * p.sr "Yadj" = star (p.sr "X") + p.sr "X" := by
  ext m a b
  rw [coeff_two_mul_apply, coeff_add_apply, coeff_star_apply]
  -- the lower blocks follow from the upper ones by Hermiticity of `Yadj`
  have upper : ∀ a b : Fin p.d, ¬ p.blk a.val > p.blk b.val →
      2 * coeff m (p.sr "Yadj") a b = star (coeff m (p.sr "X") b a) + coeff m (p.sr "X") a b := by
    intro a b hle
    rw [p.c_Y R, if_neg hle, hopt]
    by_cases hk : p.keptE a.val b.val = true
    · rw [if_pos hk]
      by_cases hc : p.commuting (p.blk a.val) = true
      · rw [if_pos hc, mul_zero, p.X_comm_antiherm R Y A h2 (p.sr_W_star R hopt Y h2) m a b hk hc]
      · rw [if_neg hc, two_inv h2]
    · rw [if_neg hk, if_neg Bool.false_ne_true, two_inv h2]
  by_cases hgt : p.blk a.val > p.blk b.val
  · have := congrArg star (upper b a (by omega))
    rw [star_mul', star_ofNat, p.Y_herm R Y, star_add, star_star, add_comm] at this
    exact this
  · exact upper a b hgt

end Problem
end BlockDiag
end Pyma
