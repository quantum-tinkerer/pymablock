/-
Views of a BlockSeries (`series[item]` with `item` on the finite dimensions only): `Index.view` — the real code's packed intermediate series,
which asks its parent for `item + (slice(i, i + 1) for the orders)` and reshapes — shows, at the orders `o`, exactly the parent elements
`src ++ o` for the sources `src` of NumPy's selection `select shape item`, in the same row-major order and with NumPy's shape (`view_spec`).
A slice `i : i + 1` normalises to the range `[i]`, and ranges appended to an item stay groups of their own behind all others, so each adds a
dimension of length one and its position to every source.  The `reshape` of the view cannot fail because a selection has as many entries as
its shape says (`select_length`).
-/
import PymaVerif.Proofs.IndexBounds

namespace Pyma
namespace Index

theorem stepRange_unit (i : Nat) : stepRange i (i + 1) 1 = [i] := by
  simp [stepRange]

theorem clip_self {i n : Nat} (h : i ≤ n) : clip n (i : Int) = i := by
  rw [clip_nonneg (Int.natCast_nonneg i), Int.toNat_natCast, Nat.min_eq_left h]

theorem normAx_unit (i : Nat) : normAx (i + 1) (.slice (some (i : Int)) (some ((i : Int) + 1)) 1) = .ok (.range [i]) := by
  have h2 : clip (i + 1) ((i : Int) + 1) = i + 1 := clip_self (i := i + 1) (Nat.le_refl _)
  rw [normAx, if_neg Nat.one_ne_zero, sliceIdx, clip_self (Nat.le_succ i), h2, stepRange_unit]

theorem normAll_units : ∀ o : List Nat,
    normAll (o.map (· + 1)) (o.map fun (i : Nat) => Ax.slice (some (i : Int)) (some ((i : Int) + 1)) 1) = .ok (o.map fun i => .range [i])
  | [] => rfl
  | i :: o => by
      simp only [List.map_cons, normAll, normAx_unit, normAll_units o, bind, Except.bind, pure, Except.pure]

theorem trialLen_units (o : List Nat) :
    (o.map fun (i : Nat) => Ax.slice (some (i : Int)) (some ((i : Int) + 1)) 1).map trialLen = o.map (· + 1) := by
  simp only [List.map_map]
  apply List.map_congr_left
  intro i _
  simp only [Function.comp, trialLen, Option.getD_some]
  omega

theorem checkFinite_units : ∀ o : List Nat, checkFinite (o.map fun (i : Nat) => Ax.slice (some (i : Int)) (some ((i : Int) + 1)) 1) = true
  | [] => rfl
  | i :: o => by
      simp only [List.map_cons, checkFinite, Option.isSome_some, negBound, checkFinite_units o, Bool.and_true, Bool.true_and,
        Bool.not_eq_eq_eq_not, Bool.not_true, decide_eq_false_iff_not, not_lt, Bool.and_eq_true]
      omega

theorem isRange_of_isMany : ∀ {a : NAx}, a.isMany = true → a.isRange = false
  | .many _, _ => rfl

theorem isMany_of_isRange : ∀ {a : NAx}, a.isRange = true → a.isMany = false
  | .range _, _ => rfl

theorem place_append_ranges {g : Group} {l t : List (NAx × Nat)} (hl : ∃ p ∈ l, p.1.isRange = false) (ht : ∀ p ∈ t, p.1.isRange = true) :
    place g (l ++ t) = place g l ++ t.map rangeGroup := by
  obtain ⟨h1, h2⟩ := takeWhile_append_of_stop (fun p : NAx × Nat => p.1.isRange) t hl
  unfold place
  rw [h1, h2, rdropWhile_append_of_pos _ ht, rtakeWhile_append_of_pos _ ht, List.filter_append, List.filter_eq_self.mpr ht]
  split <;> simp

theorem groups_append_ranges {l t : List (NAx × Nat)} (ht : ∀ p ∈ t, p.1.isRange = true) :
    groups (l ++ t) = (groups l).map (· ++ t.map rangeGroup) := by
  have h1 : t.all (fun p => !p.1.isMany) = true := List.all_eq_true.mpr fun p hp => by simp [isMany_of_isRange (ht p hp)]
  have h2 : t.filter (fun p => !p.1.isRange) = [] := List.filter_eq_nil_iff.mpr fun p hp => by simp [ht p hp]
  have h3 : manyLens (l ++ t) = manyLens l := by
    rw [manyLens, List.filterMap_append, ← manyLens, ← manyLens, manyLens_eq_nil fun p hp => isMany_of_isRange (ht p hp), List.append_nil]
  rw [groups_eq, groups_eq, List.all_append, h1, Bool.and_true, h3, List.filter_append, h2, List.append_nil]
  split
  · simp [Except.map]
  · rename_i hb
    -- an item with a list has an entry that is no range, so the leading ranges of `l ++ t` are those of `l`
    obtain ⟨p, hp, hm⟩ : ∃ p ∈ l, p.1.isMany = true := by simpa using hb
    rw [place_append_ranges ⟨p, hp, isRange_of_isMany hm⟩ ht]
    split <;> rfl

theorem product_append : ∀ gs T : List Group, product (gs ++ T) = (product gs).flatMap fun a => (product T).map (a ++ ·)
  | [], T => by simp [product]
  | g :: r, T => by
      simp only [List.cons_append, product, product_append r T, List.flatMap_assoc, List.map_flatMap, List.flatMap_map, List.map_map,
        Function.comp_def, List.append_assoc]

theorem toSource_snoc {n : Nat} {as : List (Nat × Nat)} (hk : ∀ p ∈ as, p.1 < n) (v : Nat) :
    toSource (n + 1) (as ++ [(n, v)]) = toSource n as ++ [v] := by
  have hn : as.find? (·.1 == n) = none := List.find?_eq_none.mpr fun p hp => by simpa using Nat.ne_of_lt (hk p hp)
  unfold toSource
  rw [List.range_succ, List.map_append, List.map_singleton, List.find?_append, hn]
  congr 1
  · refine List.map_congr_left fun k hk' => ?_
    have : (n == k) = false := by simpa using Nat.ne_of_gt (List.mem_range.mp hk')
    rw [List.find?_append, List.find?_singleton, this]
    simp
  · simp

theorem assemble_snoc_unit (xs : List NAx) (i : Nat) :
    assemble (xs ++ [.range [i]]) = (assemble xs).map fun r => ⟨r.shape ++ [1], r.sources.map (· ++ [i])⟩ := by
  unfold assemble
  rw [List.zipIdx_append, groups_append_ranges (by simp [NAx.isRange])]
  cases hg : groups xs.zipIdx with
  | error e => rfl
  | ok gs =>
    simp only [Except.map, bind, Except.bind, pure, Except.pure, Except.ok.injEq, Result.mk.injEq]
    refine ⟨by simp [rangeGroup], ?_⟩
    rw [product_append, List.length_append]
    simp only [List.zipIdx_singleton, List.map_singleton, rangeGroup, product, List.flatMap_singleton, List.append_nil,
      ← List.map_eq_flatMap, List.map_map, Nat.zero_add, List.length_singleton]
    exact List.map_congr_left fun as has => toSource_snoc
      (fun p hp => let ⟨_, ha, _⟩ := (product_spec hg has).1 p hp; (mem_zipIdx.mp ha).fst) i

theorem assemble_append_units (o : List Nat) : ∀ xs : List NAx,
    assemble (xs ++ o.map fun i => .range [i]) = (assemble xs).map fun r => ⟨r.shape ++ o.map (fun _ => 1), r.sources.map (· ++ o)⟩ := by
  induction o with
  | nil =>
    intro xs
    rw [List.map_nil, List.append_nil]
    cases assemble xs <;> simp [Except.map]
  | cons i o ih =>
    intro xs
    rw [List.map_cons, List.append_cons, ih, assemble_snoc_unit]
    cases assemble xs <;> simp [Except.map]

theorem select_viewItem {shape : List Nat} {item : List Ax} (o : List Nat) (hlen : shape.length = item.length) :
    select (shape ++ o.map (· + 1)) (viewItem item o) =
      (select shape item).map fun r => ⟨r.shape ++ o.map (fun _ => 1), r.sources.map (· ++ o)⟩ := by
  unfold select viewItem
  rw [normAll_append hlen, normAll_units]
  cases hn : normAll shape item with
  | error e => rfl
  | ok xs =>
    simp only [bind, Except.bind, pure, Except.pure]
    rw [assemble_append_units]

theorem product_length : ∀ gs : List Group, (product gs).length = prodL (gs.map (·.alts.length))
  | [] => rfl
  | g :: r => by
      simp only [product, List.map_cons, prodL, List.length_flatMap, List.length_map, product_length r, List.map_const',
        List.sum_replicate_nat]

theorem prodL_filter_dim : ∀ gs : List Group, (∀ g ∈ gs, g.dim = false → g.alts.length = 1) →
    prodL ((gs.filter (·.dim)).map (·.alts.length)) = prodL (gs.map (·.alts.length))
  | [], _ => rfl
  | g :: r, h => by
      have ih := prodL_filter_dim r (fun x hx => h x (List.mem_cons_of_mem _ hx))
      by_cases hd : g.dim = true
      · simp only [List.filter_cons, hd, ↓reduceIte, List.map_cons, prodL, ih]
      · have hd' : g.dim = false := by simpa using hd
        simp only [List.filter_cons, hd, Bool.false_eq_true, ↓reduceIte, List.map_cons, prodL, ih, h g (List.mem_cons_self ..) hd',
          Nat.one_mul]

theorem groups_nondim {lz : List (NAx × Nat)} {gs : List Group} (h : groups lz = .ok gs) : ∀ g ∈ gs, g.dim = false → g.alts.length = 1 := by
  obtain ⟨L, _, hform, _⟩ := groups_form h
  intro g hg hd
  rcases hform g hg with ⟨⟨a, k⟩, _, rfl⟩ | rfl
  · cases a with
    | one i => rfl
    | many js => cases hd
    | range js => cases hd
  · cases hd

theorem select_length {dims : List Nat} {item : List Ax} {r : Result} (h : select dims item = .ok r) : r.sources.length = prodL r.shape := by
  obtain ⟨l, gs, _, hgs, rfl⟩ := select_ok h
  rw [List.length_map, product_length, prodL_filter_dim gs (groups_nondim hgs)]

theorem view_spec {shape : List Nat} {item : List Ax} (o : List Nat) (hlen : item.length = shape.length) {v : Result}
    (hv : select shape item = .ok v) :
    view shape item o = .ok ⟨v.shape, v.sources.map (· ++ o), positions (v.sources.map (· ++ o))⟩ := by
  have hdrop : (viewItem item o).drop shape.length = o.map fun (i : Nat) => Ax.slice (some (i : Int)) (some ((i : Int) + 1)) 1 := by
    unfold viewItem
    rw [← hlen, List.drop_left]
  have hsel := select_viewItem o hlen.symm
  rw [hv] at hsel
  have hget : getitem shape o.length (viewItem item o) =
      .ok ⟨v.shape ++ o.map (fun _ => 1), v.sources.map (· ++ o), positions (v.sources.map (· ++ o))⟩ := by
    have hl : (viewItem item o).length = shape.length + o.length := by simp [viewItem, hlen]
    rw [getitem_eq, hdrop, if_pos ⟨checkFinite_units o, hl⟩, trialDims, trialLen_units, hsel]
    rfl
  unfold view
  simp only [hv, hget, bind, Except.bind, List.length_map, select_length hv, ↓reduceIte, pure, Except.pure]

theorem view_rejects {shape : List Nat} {item : List Ax} (o : List Nat) {e : Err} (hv : select shape item = .error e) :
    view shape item o = .error e := by
  unfold view
  simp only [hv, bind, Except.bind]

end Index
end Pyma
