/-
`Dsl.splits` enumerates exactly the antidiagonal of a multi-order, without repetition.
-/
import PymaVerif.Model.Dsl
import Mathlib.Data.Finsupp.Antidiagonal

namespace Pyma
namespace Dsl

theorem mem_splits {n : List Nat} {a b : List Nat} :
    (a, b) ∈ splits n ↔ a.length = n.length ∧ b.length = n.length ∧
      ∀ i, i < n.length → a.getD i 0 + b.getD i 0 = n.getD i 0 := by
  induction n generalizing a b with
  | nil =>
    simp only [splits, List.mem_singleton, Prod.mk.injEq, List.length_nil, List.length_eq_zero_iff]
    constructor
    · rintro ⟨rfl, rfl⟩; exact ⟨rfl, rfl, fun i hi => absurd hi (Nat.not_lt_zero _)⟩
    · rintro ⟨h1, h2, _⟩; exact ⟨h1, h2⟩
  | cons x xs ih =>
    simp only [splits, List.mem_flatMap, List.mem_range, List.mem_map, Prod.exists, Prod.mk.injEq]
    constructor
    · rintro ⟨k, hk, as, bs, hmem, rfl, rfl⟩
      obtain ⟨h1, h2, h3⟩ := ih.mp hmem
      refine ⟨congrArg (· + 1) h1, congrArg (· + 1) h2, fun i hi => ?_⟩
      cases i with
      | zero => exact Nat.add_sub_cancel' (Nat.le_of_lt_succ hk)
      | succ i => exact h3 i (Nat.lt_of_succ_lt_succ hi)
    · rintro ⟨h1, h2, h3⟩
      cases a with
      | nil => cases h1
      | cons a0 as =>
        cases b with
        | nil => cases h2
        | cons b0 bs =>
          have h0 : a0 + b0 = x := h3 0 (Nat.succ_pos _)
          refine ⟨a0, by omega, as, bs, ?_, rfl, by rw [← h0, Nat.add_sub_cancel_left]⟩
          exact ih.mpr ⟨Nat.succ.inj h1, Nat.succ.inj h2,
            fun i hi => h3 (i + 1) (Nat.succ_lt_succ hi)⟩

theorem nodup_splits (n : List Nat) : (splits n).Nodup := by
  induction n with
  | nil => simp [splits]
  | cons x xs ih =>
    simp only [splits]
    rw [List.nodup_flatMap]
    constructor
    · intro k _
      apply List.Nodup.map _ ih
      intro p q h
      obtain ⟨p1, p2⟩ := p
      obtain ⟨q1, q2⟩ := q
      simp only [Prod.mk.injEq, List.cons.injEq, true_and] at h
      simp [h.1, h.2]
    · apply List.Pairwise.imp _ (List.nodup_range)
      intro k l hkl
      simp only [Function.onFun, List.disjoint_left, List.mem_map, Prod.exists, not_exists, not_and]
      rintro ⟨a, b⟩ ⟨as, bs, _, heq⟩ cs ds _ heq2
      simp only [Prod.mk.injEq] at heq heq2
      obtain ⟨rfl, rfl⟩ := heq
      simp only [List.cons.injEq] at heq2
      exact hkl heq2.1.1.symm

def toList {k : Nat} (m : Fin k →₀ ℕ) : List Nat := List.ofFn fun i => m i

noncomputable def ofList (k : Nat) (n : List Nat) : Fin k →₀ ℕ :=
  Finsupp.equivFunOnFinite.symm fun i => n.getD i.val 0

theorem ofList_apply (k : Nat) (n : List Nat) (i : Fin k) : ofList k n i = n.getD i.val 0 := rfl

theorem length_toList {k : Nat} (m : Fin k →₀ ℕ) : (toList m).length = k := by simp [toList]

theorem getD_toList {k : Nat} (m : Fin k →₀ ℕ) (i : Fin k) : (toList m).getD i.val 0 = m i := by
  simp [toList, List.getD_eq_getElem?_getD, i.isLt]

theorem ofList_toList {k : Nat} (m : Fin k →₀ ℕ) : ofList k (toList m) = m := by
  ext i; rw [ofList_apply, getD_toList]

theorem toList_ofList {k : Nat} {n : List Nat} (h : n.length = k) : toList (ofList k n) = n := by
  apply List.ext_getElem
  · simp [toList, h]
  · intro i h1 h2
    simp only [toList, List.getElem_ofFn, ofList_apply]
    rw [List.getD_eq_getElem?_getD, List.getElem?_eq_getElem h2, Option.getD_some]

theorem sum_splits {A : Type*} [AddCommMonoid A] {k : Nat} (m : Fin k →₀ ℕ)
    (f : List Nat → List Nat → A) :
    ((splits (toList m)).map fun p => f p.1 p.2).sum
      = ∑ p ∈ Finset.antidiagonal m, f (toList p.1) (toList p.2) := by
  -- the splits of `toList m` are the image of the antidiagonal of `m` under `toList`, which is injective
  have himg : (splits (toList m)).toFinset = (Finset.antidiagonal m).image fun p => (toList p.1, toList p.2) := by
    ext ⟨a, b⟩
    simp only [List.mem_toFinset, mem_splits, Finset.mem_image, Finset.mem_antidiagonal, Prod.mk.injEq, Prod.exists,
      length_toList]
    constructor
    · rintro ⟨h1, h2, h3⟩
      refine ⟨ofList k a, ofList k b, ?_, toList_ofList h1, toList_ofList h2⟩
      ext i
      rw [Finsupp.add_apply, ofList_apply, ofList_apply, h3 i i.isLt, getD_toList]
    · rintro ⟨p, q, rfl, rfl, rfl⟩
      exact ⟨length_toList p, length_toList q, fun i hi => by
        rw [getD_toList p ⟨i, hi⟩, getD_toList q ⟨i, hi⟩, getD_toList (p + q) ⟨i, hi⟩, Finsupp.add_apply]⟩
  rw [← List.sum_toFinset _ (nodup_splits _), himg, Finset.sum_image]
  intro p _ q _ h
  have h := Prod.mk.inj h
  exact Prod.ext (by rw [← ofList_toList p.1, h.1, ofList_toList]) (by rw [← ofList_toList p.2, h.2, ofList_toList])

end Dsl
end Pyma

#print axioms Pyma.Dsl.sum_splits
